import Hannibal.Model.Chan
/-
  One actor: mailbox, event loop (plain and stream-attached), lifecycle,
  handles and reference counts, termination latch, join slot, timers,
  handler timeout, restart.  A deterministic labelled transition system:
  `step w s l = some s'` — labels are the API-visible events of the trace
  contract plus internal (τ) moves of hannibal.
-/
namespace Hannibal

structure Cfg where
  cap : Option Nat
  strat : Strategy
  timeout : Option Nat
  failOnTimeout : Bool
  stream : Bool
  deriving DecidableEq, Repr, Inhabited

inductive Phase where
  | unstarted
  | starting
  | idle
  | handling (cb : Cb) (slot : Option Nat) (deadline : Option Nat)
  | rstBegin                       -- Restart dequeued, before `stopped` of the old incarnation
  | rstStopping                    -- inside `stopped` during refresh
  | rstStopped (fresh : Bool)      -- between `stopped` and `started` of refresh
  | leaving                        -- loop left
  | finishing                      -- inside `finished` (stream-attached)
  | finishedDone
  | stopping                       -- inside the final `stopped`
  | exiting (graceful : Bool)      -- the loop is returning; its task has not finished yet
  | done (graceful : Bool)
  deriving DecidableEq, Repr, Inhabited

inductive Latch where
  | pending | fired | dropped
  deriving DecidableEq, Repr, Inhabited

inductive OpSt where
  | pending
  | answered (r : Reply)
  | pinged
  | cancelled
  | failed (e : ErrKind)
  | joining
  | joinNone
  deriving DecidableEq, Repr, Inhabited

structure OpRec where
  o : Nat
  h : Nat
  kind : OpKind
  st : OpSt
  deriving DecidableEq, Repr, Inhabited

inductive TimerSt where
  | spawned
  | sleeping (due : Nat)
  | sending
  | dead          -- aborted or finished; its task has not been seen to end yet
  | deadHolding   -- aborted while its send was in flight: the task still owns a strong sender until it is dropped
  | ended         -- the task ended
  deriving DecidableEq, Repr, Inhabited

structure Timer where
  id : Nat
  kind : TimerKind
  d : Nat
  st : TimerSt
  deriving DecidableEq, Repr, Inhabited

structure AState where
  cfg : Cfg
  chan : Chan
  phase : Phase
  clock : Nat
  handles : List (Nat × HKind)
  ops : List OpRec
  latch : Latch
  latchPolled : Bool
  joinTaken : Bool
  result : Option Final
  birth : Nat
  log : List Nat
  timers : List Timer
  avail : List Nat          -- stream items made available, not yet taken
  streamEnded : Bool
  busy : Option Nat         -- the open callback sleeps until then
  abandon : Option Cb       -- callback cut short by a cancellation, drop guard not seen yet
  drained : List Nat        -- handles whose own `Shared` latch clone was polled to completion
  deriving DecidableEq, Repr, Inhabited

inductive Label where
  | begin (o h : Nat) (k : OpKind)
  | ret (o : Nat) (r : Res)
  | cdrop (o : Nat)
  | mk (h h' : Nat) (k' : HKind)
  | upgrade (h : Nat) (h' : Option Nat)
  | detach (h h' : Nat)
  | drop (h : Nat)
  | stopReq (h : Nat) (ok : Bool)
  | restartReq (h : Nat) (ok : Bool)
  | query (h : Nat) (stopped : Bool)
  | cbBegin (cb : Cb)
  | cbEnd (cb : Cb) (ok : Bool)
  | cbAbandon (cb : Cb)
  | cbPanic (cb : Cb)
  | vnew (birth : Nat)
  | work (d : Nat)
  | ctxStop (ok : Bool)
  | ctxRestart (ok : Bool)
  | ctxTimer (t : Nat) (k : TimerKind) (d : Nat)
  | ctxWeak (k : HKind) (h : Option Nat)
  | fire (t : Nat) (m : Option Nat)
  | timerArm (t : Nat) (due : Nat)   -- executor: the timer task went to sleep until `due`
  | timerEnd (t : Nat)               -- executor: the timer task ended
  | tickBegin (t m : Nat)
  | extPush (b : Nat)              -- a holder outside the client model (the parent) force-sends broadcast `b`
  | extBegin (b m : Nat)           -- the loop reaches broadcast `b` at the head: it is message `m` from now on
  | time (t : Nat)
  | cancel
  | taskPanic
  | streamReady (k : Nat)
  | streamEnd
  | taskDone                       -- executor: the loop task completed
  | quiescent (pending : List Nat)
  -- internal moves
  | tDeq
  | tChanEnd
  | tStreamEnd
  deriving DecidableEq, Repr, Inhabited

def Label.isTau : Label → Bool
  | .tDeq | .tChanEnd | .tStreamEnd => true
  | _ => false

namespace AState

def init (cfg : Cfg) (h0 : Nat) (k0 : HKind) : AState :=
  { cfg, chan := Chan.init cfg.cap, phase := .unstarted, clock := 0,
    handles := [(h0, k0)], ops := [], latch := .pending, latchPolled := false,
    joinTaken := false, result := none, birth := 0, log := [], timers := [],
    avail := [], streamEnded := false, busy := none, abandon := none, drained := [] }

def handleKind (s : AState) (h : Nat) : Option HKind :=
  (s.handles.find? (fun p => p.1 == h)).map (·.2)

def findOp (s : AState) (o : Nat) : Option OpRec := s.ops.find? (fun r => r.o == o)

def setOp (s : AState) (o : Nat) (st : OpSt) : AState :=
  { s with ops := s.ops.map (fun r => if r.o == o then { r with st := st } else r) }

def removeOp (s : AState) (o : Nat) : AState :=
  { s with ops := s.ops.filter (fun r => r.o != o) }

def removeHandle (s : AState) (h : Nat) : AState :=
  { s with handles := s.handles.filter (fun p => p.1 != h) }

/-- Does the recorded operation own a strong handle of its own (it upgraded a weak one, or is a
    `Caller::call` future)?  An operation whose upgrade failed (`failed alreadyStopped`) owns nothing. -/
def opHolds (w : Wiring) (x : Half) (r : OpRec) : Bool :=
  if r.st = .failed .alreadyStopped then false else
  match r.kind with
  | .callw _ | .tryCall _ => (w.holds .caller).contains x
  | .trySend _ | .tryForce _ => (w.holds .sender).contains x
  | .tryHalt => (w.holds .addr).contains x
  | _ => false

def timerHolds (w : Wiring) (x : Half) (t : Timer) : Bool :=
  match t.st with
  | .sending | .deadHolding => (w.holds .sender).contains x
  | _ => false

/-- Some owner keeps the closure `x` (`tx_fn` / `force_tx_fn`) alive. -/
def halfAlive (w : Wiring) (s : AState) (x : Half) : Bool :=
  s.handles.any (fun p => (w.holds p.2).contains x)
    || s.ops.any (opHolds w x) || s.timers.any (timerHolds w x)

def reqOk (w : Wiring) (s : AState) (req : List Half) : Bool :=
  req.all (fun x => s.halfAlive w x)

def isWaitOp : OpKind → Bool
  | .send _ | .trySend _ | .callw _ | .tryCall _ => true
  | _ => false

/-- An in-flight waiting-path submission owns a clone of the mpsc sender. -/
def inflight (s : AState) : Bool :=
  s.ops.any (fun r => isWaitOp r.kind && (match r.st with | .failed _ => false | _ => true))
    || s.timers.any (fun t => t.st == .sending || t.st == .deadHolding)

/-- Some mpsc `Sender` exists: the channel is open from the sending side. -/
def sendersAlive (w : Wiring) (s : AState) : Bool :=
  s.halfAlive w .tx || s.halfAlive w .force || s.inflight

def inCallback (s : AState) : Bool :=
  match s.phase with
  | .starting | .handling _ _ _ | .rstStopping | .finishing | .stopping => true
  | _ => false

def isDone (s : AState) : Bool :=
  match s.phase with
  | .done _ => true
  | _ => false

/-- The operation awaiting this payload's reply. -/
def slotOf : Payload → Option Nat
  | .msg _ (some o) => some o
  | .ping o => some o
  | _ => none

def cancelSlots (s : AState) (slots : List Nat) : AState :=
  { s with ops := s.ops.map (fun r =>
      if slots.contains r.o && r.st == .pending then { r with st := .cancelled } else r) }

def curSlot (s : AState) : List Nat :=
  match s.phase with
  | .handling _ (some o) _ => [o]
  | _ => []

def killTimers (s : AState) : AState :=
  { s with timers := s.timers.map (fun t =>
      if t.st = .ended then t
      else if t.st = .sending ∨ t.st = .deadHolding then { t with st := .deadHolding }
      else { t with st := .dead }) }

/-- The loop future is gone without `notify()`: failure of any kind. -/
def fail (s : AState) : AState :=
  let s1 := s.cancelSlots (s.curSlot ++ s.chan.queue.filterMap (fun e => slotOf e.pl))
  let s2 := s1.killTimers
  { s2 with phase := .done false, chan := s2.chan.dropRx,
            latch := (if s2.latch == .pending then .dropped else s2.latch),
            result := none, busy := none }

/-- The loop returned `Ok(actor)` after `stopped()` and `notify()`. -/
def finish (s : AState) : AState :=
  let s1 := s.cancelSlots (s.chan.queue.filterMap (fun e => slotOf e.pl))
  let s2 := s1.killTimers
  { s2 with phase := .done true, chan := s2.chan.dropRx,
            latch := (if s2.latch == .pending then .fired else s2.latch),
            result := some { birth := s2.birth, stoppedSeen := true, digest := s2.log },
            busy := none }

/-- Submission of a payload (callers test `s.chan.rx` first: a submission is refused iff the
    receiver is gone). On the forcing path the fresh sender clone is dropped at once: stale token. -/
def push (s : AState) (pl : Payload) (path : Path) (tok : Tok) : AState :=
  { s with chan := s.chan.enq { pl, tok := (if path = .waiting then tok else .stale) } }

def addOp (s : AState) (o h : Nat) (k : OpKind) (st : OpSt) : AState :=
  { s with ops := s.ops ++ [{ o, h, kind := k, st }] }

def kindOk (k : OpKind) (hk : HKind) : Bool :=
  match k, hk with
  | .send _, .addr | .send _, .owning | .send _, .sender => true
  | .trySend _, .weakSender => true
  | .tryForce _, .weakSender => true
  | .call _, .addr | .call _, .owning => true
  | .callw _, .caller => true
  | .tryCall _, .weakCaller => true
  | .ping, .addr | .ping, .owning => true
  | .halt, .addr => true
  | .tryHalt, .weakAddr => true
  | .await, .addr => true
  | .join, .owning | .consume, .owning => true
  | _, _ => false

def sendPath (w : Wiring) (hk : HKind) : Path :=
  match hk with
  | .sender | .weakSender => w.path .senderSend
  | _ => w.path .addrSend

/-- What an operation does at its submission point. -/
structure Plan where
  upg : List Half            -- closures a weak handle must find alive (`[]` for strong handles)
  pl : Option Payload        -- the payload submitted, if any
  path : Path
  join : Bool                -- takes the join slot

def plan (w : Wiring) (hk : HKind) (o : Nat) : OpKind → Plan
  | .send m => { upg := [], pl := some (.msg m none), path := sendPath w hk, join := false }
  | .trySend m =>
    { upg := w.upgradeReq .weakSender, pl := some (.msg m none), path := sendPath w hk, join := false }
  | .tryForce m =>
    { upg := w.upgradeReq .weakSender, pl := some (.msg m none), path := .forcing, join := false }
  | .call m => { upg := [], pl := some (.msg m (some o)), path := w.path .addrCall, join := false }
  | .callw m => { upg := [], pl := some (.msg m (some o)), path := w.path .callerCall, join := false }
  | .tryCall m =>
    { upg := w.upgradeReq .weakCaller, pl := some (.msg m (some o)), path := w.path .callerCall,
      join := false }
  | .ping => { upg := [], pl := some (.ping o), path := w.path .addrPing, join := false }
  | .halt => { upg := [], pl := some .stop, path := w.path .addrStop, join := false }
  | .tryHalt =>
    { upg := w.upgradeReq .weakAddr, pl := some .stop, path := w.path .addrStop, join := false }
  | .await => { upg := [], pl := none, path := .forcing, join := false }
  | .join => { upg := [], pl := none, path := .forcing, join := true }
  | .consume => { upg := [], pl := some .stop, path := w.path .addrStop, join := true }

/-- Record the operation as waiting (for flow control, a reply, the latch or the join slot). -/
def beginWait (s : AState) (o h : Nat) (k : OpKind) (join : Bool) : AState :=
  if join then
    (if s.joinTaken then s.addOp o h k .joinNone
     else { s with joinTaken := true }.addOp o h k .joining)
  else s.addOp o h k .pending

def stepBegin (w : Wiring) (s : AState) (o h : Nat) (k : OpKind) : Option AState :=
  match s.handleKind h with
  | none => none
  | some hk =>
    if !kindOk k hk || (s.findOp o).isSome then none
    else if !s.reqOk w (plan w hk o k).upg then some (s.addOp o h k (.failed .alreadyStopped))
    else
      match (plan w hk o k).pl with
      | none => some (s.beginWait o h k (plan w hk o k).join)
      | some pl =>
        if s.chan.rx then
          some ((s.push pl (plan w hk o k).path (.op o)).beginWait o h k (plan w hk o k).join)
        else some (s.addOp o h k (.failed .send))

/-- What a latch awaiter gets. -/
def latchRes (s : AState) : Option Res :=
  match s.latch with
  | .pending => none
  | .fired => some .ok
  | .dropped => some (.err .canceled)

/-- The result the operation may return now (`none`: it cannot return yet). -/
def retExpect (s : AState) (rec : OpRec) : Option Res :=
  match rec.st with
  | .failed e => some (.err e)
  | .pending =>
    (match rec.kind with
     | .send _ | .trySend _ | .tryForce _ => if s.chan.isParked (.op rec.o) then none else some .ok
     | .halt | .tryHalt | .await => s.latchRes
     | _ => none)
  | .answered v =>
    (match rec.kind with
     | .call _ | .callw _ | .tryCall _ => some (.okReply v)
     | _ => none)
  | .pinged => if rec.kind = .ping then some .ok else none
  | .cancelled =>
    (match rec.kind with
     | .call _ | .callw _ | .tryCall _ | .ping => some (.err .canceled)
     | _ => none)
  | .joining =>
    if s.isDone then
      (match rec.kind, s.result with
       | .join, some f => some (.some f)
       | .join, none => some .none
       | .consume, some f => some (.some f)
       | .consume, none => some (.err .alreadyStopped)
       | _, _ => none)
    else none
  | .joinNone =>
    (match rec.kind with
     | .join => some .none
     | .consume => some (.err .alreadyStopped)
     | _ => none)

def consumesHandle : OpKind → Bool
  | .halt | .consume => true
  | _ => false

def isLatchOp : OpKind → Bool
  | .halt | .tryHalt | .await => true
  | _ => false

def retEffect (s : AState) (rec : OpRec) : AState :=
  let s1 := s.removeOp rec.o
  let s2 := if consumesHandle rec.kind then s1.removeHandle rec.h else s1
  let s3 := if rec.st = .joining then { s2 with result := none } else s2
  if isLatchOp rec.kind ∧ rec.st = .pending then
    { s3 with latchPolled := true,
              drained := (if rec.kind = .await then rec.h :: s3.drained else s3.drained) }
  else s3

def stepRet (s : AState) (o : Nat) (r : Res) : Option AState :=
  match s.findOp o with
  | none => none
  | some rec => if s.retExpect rec = some r then some (s.retEffect rec) else none

def stepCdrop (s : AState) (o : Nat) : Option AState :=
  match s.findOp o with
  | none => none
  | some rec =>
    (match rec.kind with
     | .halt | .consume => some ((s.removeOp o).removeHandle rec.h)
     | _ => some (s.removeOp o))

/-- Which conversions exist in the API (`clone`, `downgrade`, `sender`, ...). -/
def convOk (src dst : HKind) : Bool :=
  match src, dst with
  | .addr, .addr | .addr, .weakAddr | .addr, .sender | .addr, .caller
  | .addr, .weakSender | .addr, .weakCaller => true
  | .owning, .addr | .owning, .weakAddr | .owning, .sender | .owning, .caller
  | .owning, .weakSender | .owning, .weakCaller => true
  | .sender, .sender | .sender, .weakSender => true
  | .caller, .caller | .caller, .weakCaller => true
  | .weakAddr, .weakAddr | .weakSender, .weakSender | .weakCaller, .weakCaller => true
  | _, _ => false

def stepMk (s : AState) (h h' : Nat) (k' : HKind) : Option AState :=
  match s.handleKind h with
  | none => none
  | some k =>
    if convOk k k' && (s.handleKind h').isNone then
      some { s with handles := s.handles ++ [(h', k')],
                    drained := (if s.drained.contains h then h' :: s.drained else s.drained) }
    else none

def stepUpgrade (w : Wiring) (s : AState) (h : Nat) (h' : Option Nat) : Option AState :=
  match s.handleKind h with
  | none => none
  | some k =>
    match k.upgraded with
    | none => none
    | some ks =>
      if s.reqOk w (w.upgradeReq k) then
        (match h' with
         | some h' =>
           if (s.handleKind h').isNone then
             some { s with handles := s.handles ++ [(h', ks)],
                           drained := (if s.drained.contains h then h' :: s.drained else s.drained) }
           else none
         | none => none)
      else
        (match h' with
         | none => some s
         | some _ => none)

def stepDetach (s : AState) (h h' : Nat) : Option AState :=
  if s.handleKind h == some .owning && (s.handleKind h').isNone then
    some { (s.removeHandle h) with handles := (s.removeHandle h).handles ++ [(h', .addr)],
                                   drained := (if s.drained.contains h then h' :: s.drained else s.drained) }
  else none

def stepDrop (s : AState) (h : Nat) : Option AState :=
  if (s.handleKind h).isSome then some (s.removeHandle h) else none

/-- `Addr::stop` / `WeakAddr::try_stop` (and the restart twins). -/
def stepSignal (w : Wiring) (s : AState) (h : Nat) (pl : Payload) (path : Path) (ok : Bool) :
    Option AState :=
  match s.handleKind h with
  | some .addr =>
    if s.chan.rx then (if ok then some (s.push pl path .stale) else none)
    else (if ok then none else some s)
  | some .weakAddr =>
    if s.reqOk w (w.upgradeReq .weakAddr) && s.chan.rx then (if ok then some (s.push pl path .stale) else none)
    else (if ok then none else some s)
  | _ => none

def latchSet (s : AState) : Bool := s.latch != .pending

def stepQuery (w : Wiring) (s : AState) (h : Nat) (b : Bool) : Option AState :=
  match s.handleKind h with
  | some .addr | some .owning | some .weakAddr =>
    (match w.livenessQuery with
     | .truthful => if b == s.latchSet then some s else none
     | .peekOnly =>
       if b == (s.latchSet && s.latchPolled && !s.drained.contains h) then some s else none
     | .unknown => none)
  | _ => none

def deadlineAt (s : AState) : Option Nat :=
  if s.cfg.stream then none else s.cfg.timeout.map (fun t => s.clock + t)

/-- If the source notified before calling `stopped()` the latch would fire here. -/
def notifyEarly (w : Wiring) (s : AState) : AState :=
  if w.notifyAfterStopped then s
  else { s with latch := (if s.latch == .pending then .fired else s.latch) }

def toStopping (s : AState) : AState := { s with phase := .stopping }

def stepCbBegin (w : Wiring) (s : AState) (cb : Cb) : Option AState :=
  match cb, s.phase with
  | .started, .unstarted => some { s with phase := .starting }
  | .started, .rstStopped fresh =>
    if s.cfg.strat == .recreate && !fresh then none else some { s with phase := .starting }
  | .handle m, .idle =>
    (match s.chan.queue with
     | { pl := .msg m' slot, .. } :: _ =>
       if m' == m && s.chan.rx then
         some { s with chan := s.chan.deq, phase := .handling (.handle m) slot s.deadlineAt,
                       log := s.log ++ [m] }
       else none
     | _ => none)
  | .item k, .idle =>
    (match s.avail with
     | k' :: rest =>
       if s.cfg.stream && k' == k then
         some { s with avail := rest, phase := .handling (.item k) none none,
                       log := s.log ++ [200000 + k] }
       else none
     | [] => none)
  | .finished, .leaving => if s.cfg.stream then some { s with phase := .finishing } else none
  | .stopped, .leaving => if s.cfg.stream then none else some (s.notifyEarly w).toStopping
  | .stopped, .finishedDone => some (s.notifyEarly w).toStopping
  | .stopped, .rstBegin => some { s with phase := .rstStopping }
  | _, _ => none

def workDone (s : AState) : Bool :=
  match s.busy with
  | none => true
  | some t => t ≤ s.clock

def answer (s : AState) (slot : Option Nat) (m : Nat) : AState :=
  match slot with
  | none => s
  | some o =>
    { s with ops := s.ops.map (fun r =>
        if r.o == o && r.st == .pending then
          { r with st := .answered { m, birth := s.birth, digest := s.log } }
        else r) }

/-- `R::refresh` aborts the timers of the incarnation that just stopped (if the source does). -/
def refreshTimers (w : Wiring) (s : AState) : AState :=
  if w.refreshResetsTimers then s.killTimers else s

def stepCbEnd (w : Wiring) (s : AState) (cb : Cb) (ok : Bool) : Option AState :=
  if !s.workDone then none else
  match cb, s.phase with
  | .started, .starting =>
    if ok then some { s with phase := .idle, busy := none }
    else some { s with phase := .exiting false, busy := none }
  | .handle m, .handling (.handle m') slot _ =>
    if m == m' && ok then some { (s.answer slot m) with phase := .idle, busy := none } else none
  | .item k, .handling (.item k') _ _ =>
    if k == k' && ok then some { s with phase := .idle, busy := none } else none
  | .finished, .finishing => if ok then some { s with phase := .finishedDone, busy := none } else none
  | .stopped, .stopping =>
    if ok then some { s with phase := .exiting true, busy := none } else none
  | .stopped, .rstStopping =>
    if ok then some { (s.refreshTimers w) with phase := .rstStopped false, busy := none } else none
  | _, _ => none

def openCb (s : AState) : Option Cb :=
  match s.phase with
  | .starting => some .started
  | .handling cb _ _ => some cb
  | .rstStopping | .stopping => some .stopped
  | .finishing => some .finished
  | _ => none

def stepCbAbandon (s : AState) (cb : Cb) : Option AState :=
  match s.phase with
  | .handling cb' slot (some dl) =>
    if cb == cb' && dl ≤ s.clock then
      let s1 := s.cancelSlots (match slot with | some o => [o] | none => [])
      if s.cfg.failOnTimeout then some { s1 with phase := .exiting false, busy := none }
      else some { s1 with phase := .idle, busy := none }
    else none
  | .done false => if s.abandon == some cb then some { s with abandon := none } else none
  | _ => none

def stepCbPanic (s : AState) (cb : Cb) : Option AState :=
  if s.openCb == some cb then
    some { (s.cancelSlots s.curSlot) with phase := .exiting false, busy := none }
  else none

def stepVnew (s : AState) (b : Nat) : Option AState :=
  match s.phase with
  | .unstarted => some { s with birth := b }
  | .rstStopped false =>
    if s.cfg.strat == .recreate then some { s with phase := .rstStopped true, birth := b, log := [] }
    else none
  | _ => none

def stepWork (s : AState) (d : Nat) : Option AState :=
  if s.inCallback && s.workDone then some { s with busy := some (s.clock + d) } else none

def stepCtxSignal (w : Wiring) (s : AState) (req : List Half) (pl : Payload) (path : Path) (ok : Bool) :
    Option AState :=
  if !s.inCallback then none else
  if s.reqOk w req && s.chan.rx then (if ok then some (s.push pl path .stale) else none)
  else (if ok then none else some s)

def stepCtxTimer (s : AState) (t : Nat) (k : TimerKind) (d : Nat) : Option AState :=
  if s.inCallback && !(s.timers.any (fun x => x.id == t)) then
    some { s with timers := s.timers ++ [{ id := t, kind := k, d, st := .spawned }] }
  else none

def stepCtxWeak (w : Wiring) (s : AState) (k : HKind) (h : Option Nat) : Option AState :=
  if !s.inCallback then none else
  match k, h with
  | .weakAddr, some h =>
    if s.reqOk w w.ctxAddressReq && (s.handleKind h).isNone then
      some { s with handles := s.handles ++ [(h, .weakAddr)] } else none
  | .weakAddr, none => if s.reqOk w w.ctxAddressReq then none else some s
  | .weakSender, some h | .weakCaller, some h =>
    if (s.handleKind h).isNone then some { s with handles := s.handles ++ [(h, k)] } else none
  | _, _ => none

def findTimer (s : AState) (t : Nat) : Option Timer := s.timers.find? (fun x => x.id == t)

def setTimer (s : AState) (t : Nat) (st : TimerSt) : AState :=
  { s with timers := s.timers.map (fun x => if x.id == t then { x with st := st } else x) }

def timerDue (s : AState) (x : Timer) : Bool :=
  match x.st with
  | .sleeping due => due ≤ s.clock
  | _ => false

/-- The timer task goes to sleep: first arming, or `interval` woke up, upgraded its weak
    sender, force-sent a tick and sleeps again, or `interval_with` got its send through. -/
def stepTimerArm (w : Wiring) (s : AState) (t due : Nat) : Option AState :=
  match s.findTimer t with
  | some x =>
    if due ≠ s.clock + x.d then none else
    (match x.st with
     | .spawned => some (s.setTimer t (.sleeping due))
     | .sleeping _ =>
       if x.kind = .interval ∧ s.timerDue x ∧ s.reqOk w (w.upgradeReq .weakSender) ∧ s.chan.rx then
         some ((s.push (.tick t) (w.timerPath .interval) (.timer t)).setTimer t (.sleeping due))
       else none
     | .sending =>
       if x.kind = .intervalWith ∧ !s.chan.isParked (.timer t) then some (s.setTimer t (.sleeping due))
       else none
     | _ => none)
  | none => none

/-- The timer task ended: aborted, finished, or its weak sender no longer upgrades. -/
def stepTimerEnd (w : Wiring) (s : AState) (t : Nat) : Option AState :=
  match s.findTimer t with
  | some x =>
    (match x.st with
     | .dead | .deadHolding => some (s.setTimer t .ended)
     | .sleeping _ =>
       if x.kind = .interval ∧ s.timerDue x ∧ !(s.reqOk w (w.upgradeReq .weakSender) && s.chan.rx) then
         some (s.setTimer t .ended)
       else none
     | .sending =>
       if x.kind = .delayedSend ∧ !s.chan.isParked (.timer t) then some (s.setTimer t .ended) else none
     | _ => none)
  | none => none

/-- `interval_with` / `delayed_send` / `delayed_exec`: the user closure runs. -/
def stepFire (w : Wiring) (s : AState) (t : Nat) (m : Option Nat) : Option AState :=
  match s.findTimer t with
  | some x =>
    if !s.timerDue x then none else
    (match x.kind, m with
     | .delayedExec, none => some (s.setTimer t .dead)
     | .intervalWith, some m | .delayedSend, some m =>
       if s.reqOk w (w.upgradeReq .weakSender) && s.chan.rx then
         some ((s.push (.msg m none) (w.timerPath x.kind) (.timer t)).setTimer t .sending)
       else some (s.setTimer t .dead)
     | _, _ => none)
  | none => none

def stepTickBegin (s : AState) (t m : Nat) : Option AState :=
  match s.phase, s.chan.queue with
  | .idle, { pl := .tick t', tok } :: rest =>
    if t == t' then
      some { s with chan := { s.chan with queue := { pl := .msg m none, tok } :: rest } }
    else none
  | _, _ => none

/-- `Sender::force_send` by a holder that is not a client of the trace (a parent's `send_to_children`):
    forcing path, refused (and ignored by the caller) iff the receiver is gone. -/
def stepExtPush (s : AState) (b : Nat) : Option AState :=
  if s.chan.rx then some (s.push (.ext b) .forcing .stale) else some s

def stepExtBegin (s : AState) (b m : Nat) : Option AState :=
  match s.phase, s.chan.queue with
  | .idle, { pl := .ext b', tok } :: rest =>
    if b == b' then
      some { s with chan := { s.chan with queue := { pl := .msg m none, tok } :: rest } }
    else none
  | _, _ => none

/-- the virtual clock may not jump past a pending deadline of this actor -/
def timeOk (s : AState) (t : Nat) : Bool :=
  (match s.busy with
   | some b => decide (s.clock ≥ b) || decide (t ≤ b)
   | none => true)
  && (match s.phase with
      | .handling _ _ (some dl) => decide (s.clock ≥ dl) || decide (t ≤ dl)
      | _ => true)
  && s.timers.all (fun x => match x.st with
      | .sleeping due => decide (due ≤ s.clock) || decide (t ≤ due)
      | _ => true)

def stepTime (s : AState) (t : Nat) : Option AState :=
  if s.clock ≤ t ∧ s.timeOk t = true then some { s with clock := t } else none

def stepCancel (s : AState) : Option AState :=
  if s.isDone then none else some { s.fail with abandon := s.openCb }

def stepTaskDone (s : AState) : Option AState :=
  match s.phase with
  | .exiting true => some s.finish
  | .exiting false => some s.fail
  | _ => none

def stepTaskPanic (s : AState) : Option AState :=
  match s.phase with
  | .exiting false => some s.fail
  | .idle =>
    (match s.chan.queue with
     | { pl := .restart, .. } :: _ =>
       if s.cfg.stream && s.chan.rx then some ({ s with chan := s.chan.deq }).fail else none
     | _ => none)
  | _ => none

def stepStreamReady (s : AState) (k : Nat) : Option AState :=
  if s.cfg.stream && !s.streamEnded then some { s with avail := s.avail ++ [k] } else none

def stepStreamEnd (s : AState) : Option AState :=
  if s.cfg.stream && !s.streamEnded then some { s with streamEnded := true } else none

/-- The loop takes a head entry that has no user callback. -/
def stepDeq (s : AState) : Option AState :=
  match s.phase, s.chan.queue with
  | .idle, e :: _ =>
    if !s.chan.rx then none else
    let s' := { s with chan := s.chan.deq }
    (match e.pl with
     | .ping o =>
       some { s' with ops := s'.ops.map (fun r =>
                if r.o == o && r.st == .pending then { r with st := .pinged } else r) }
     | .stop => some { s' with phase := .leaving }
     | .restart =>
       if s.cfg.stream then none
       else if s.cfg.strat == .non then some s'
       else some { s' with phase := .rstBegin }
     | _ => none)
  | _, _ => none

def stepChanEnd (w : Wiring) (s : AState) : Option AState :=
  match s.phase with
  | .idle =>
    if s.chan.queue.isEmpty && !s.sendersAlive w then some { s with phase := .leaving } else none
  | _ => none

def stepStreamEndTau (s : AState) : Option AState :=
  match s.phase with
  | .idle =>
    if s.cfg.stream && s.streamEnded && s.avail.isEmpty then some { s with phase := .leaving }
    else none
  | _ => none

/-- Nothing about this actor can move any more: the loop is parked on an open, empty mailbox
    (and a silent stream) or gone, every timer task has ended, no pending operation can return. -/
def quiet (w : Wiring) (s : AState) : Bool :=
  (match s.phase with
   | .done _ => true
   | .idle =>
     s.chan.queue.isEmpty && s.sendersAlive w && (!s.cfg.stream || (s.avail.isEmpty && !s.streamEnded))
   | _ => false)
  && s.timers.all (fun t => t.st == .ended)
  && s.ops.all (fun r => (s.retExpect r).isNone)

def stepQuiescent (w : Wiring) (s : AState) (pend : List Nat) : Option AState :=
  if s.quiet w && pend.all (fun o => (s.findOp o).isSome) && s.ops.all (fun r => pend.contains r.o)
  then some s else none

end AState

open AState in
def step (w : Wiring) (s : AState) : Label → Option AState
  | .begin o h k => s.stepBegin w o h k
  | .ret o r => s.stepRet o r
  | .cdrop o => s.stepCdrop o
  | .mk h h' k' => s.stepMk h h' k'
  | .upgrade h h' => s.stepUpgrade w h h'
  | .detach h h' => s.stepDetach h h'
  | .drop h => s.stepDrop h
  | .stopReq h ok => s.stepSignal w h .stop (w.path .addrStop) ok
  | .restartReq h ok => s.stepSignal w h .restart (w.path .addrRestart) ok
  | .query h b => s.stepQuery w h b
  | .cbBegin cb => s.stepCbBegin w cb
  | .cbEnd cb ok => s.stepCbEnd w cb ok
  | .cbAbandon cb => s.stepCbAbandon cb
  | .cbPanic cb => s.stepCbPanic cb
  | .vnew b => s.stepVnew b
  | .work d => s.stepWork d
  | .ctxStop ok => s.stepCtxSignal w w.ctxStopReq .stop (w.path .ctxStop) ok
  | .ctxRestart ok => s.stepCtxSignal w w.ctxRestartReq .restart (w.path .ctxRestart) ok
  | .ctxTimer t k d => s.stepCtxTimer t k d
  | .ctxWeak k h => s.stepCtxWeak w k h
  | .fire t m => s.stepFire w t m
  | .timerArm t due => s.stepTimerArm w t due
  | .timerEnd t => s.stepTimerEnd w t
  | .tickBegin t m => s.stepTickBegin t m
  | .extPush b => s.stepExtPush b
  | .extBegin b m => s.stepExtBegin b m
  | .time t => s.stepTime t
  | .cancel => s.stepCancel
  | .taskPanic => s.stepTaskPanic
  | .streamReady k => s.stepStreamReady k
  | .streamEnd => s.stepStreamEnd
  | .taskDone => s.stepTaskDone
  | .quiescent pend => s.stepQuiescent w pend
  | .tDeq => s.stepDeq
  | .tChanEnd => s.stepChanEnd w
  | .tStreamEnd => s.stepStreamEndTau

/-- what may happen to an actor in a phase in which its loop future has no suspension point -/
def Phase.allows : Phase → Label → Bool
  | .exiting _, l => l == .taskDone || l == .taskPanic           -- the loop returned: only the end of the task
  | .rstStopped _, l =>                                           -- inside `refresh`, between `stopped` and `started`
    (match l with
     | .vnew _ | .cbBegin .started => true
     | _ => false)
  | _, _ => true

/-- The loop's return (or failure) and the end of its task happen inside one poll of the task, and so do
    `stopped`'s return and `started`'s begin during a restart: nothing else can happen to this actor in
    between.  `gstep` is `step` with that guard; every guarded run is a run (`Proofs/Guarded.lean`), so
    whatever is proved about all runs holds of all guarded runs, and the acceptor uses the guarded step. -/
def gstep (w : Wiring) (s : AState) (l : Label) : Option AState :=
  if s.phase.allows l then step w s l else none

def grun (w : Wiring) (s : AState) : List Label → Option AState
  | [] => some s
  | l :: ls => match gstep w s l with
    | some s' => grun w s' ls
    | none => none

/-- Run a label sequence from a state. -/
def run (w : Wiring) (s : AState) : List Label → Option AState
  | [] => some s
  | l :: ls => match step w s l with
    | some s' => run w s' ls
    | none => none

/-- The client drops the future of an operation whose submission went through.  A failed submission resolves at
    the first poll of the future, so a client that polled it at least once (the harness always does) returns
    from it rather than dropping it.  `dstep` is the guarded step with that extra guard on `cdrop`; every
    `drun` is a `grun` (`Proofs/C05DRun.lean`), and the acceptor uses `dstep`. -/
def AState.cdropOk (s : AState) (o : Nat) : Bool :=
  match s.findOp o with
  | some rec => (match rec.st with | .failed _ => false | _ => true)
  | none => true

def dstep (w : Wiring) (s : AState) (l : Label) : Option AState :=
  match l with
  | .cdrop o => if s.cdropOk o then gstep w s l else none
  | _ => gstep w s l

def drun (w : Wiring) (s : AState) : List Label → Option AState
  | [] => some s
  | l :: ls => match dstep w s l with
    | some s' => drun w s' ls
    | none => none

end Hannibal
