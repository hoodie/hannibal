/-
  Vocabulary shared by the model, the monitors and the driver.
  Import-free on purpose: everything under Model/, Monitor/, Generated/ and
  Driver/ must link into the compiled `hdriver`.
-/
namespace Hannibal

/-- The two submission paths of `channel.rs`. -/
inductive Path where
  | waiting   -- `tx_fn`: SinkExt::send on a fresh clone (flow controlled)
  | forcing   -- `force_tx_fn`: start_send on a fresh clone (ignores the bound)
  deriving DecidableEq, Repr, Inhabited

/-- The two reference-counted closures that own the long-lived mpsc senders. -/
inductive Half where
  | tx | force
  deriving DecidableEq, Repr, Inhabited

inductive HKind where
  | addr | owning | sender | caller | weakAddr | weakSender | weakCaller
  deriving DecidableEq, Repr, Inhabited

def HKind.strong : HKind → Bool
  | .addr | .owning | .sender | .caller => true
  | _ => false

/-- The strong kind a weak kind upgrades to. -/
def HKind.upgraded : HKind → Option HKind
  | .weakAddr => some .addr
  | .weakSender => some .sender
  | .weakCaller => some .caller
  | _ => none

inductive Strategy where
  | only | recreate | non
  deriving DecidableEq, Repr, Inhabited

inductive Cb where
  | started
  | handle (m : Nat)
  | item (k : Nat)
  | finished
  | stopped
  deriving DecidableEq, Repr, Inhabited

inductive TimerKind where
  | interval | intervalWith | delayedSend | delayedExec
  deriving DecidableEq, Repr, Inhabited

/-- Client operations that are futures (have a `begin` and a `ret`). -/
inductive OpKind where
  | send (m : Nat)      -- Addr::send / OwningAddr::send / Sender::send
  | trySend (m : Nat)   -- WeakSender::try_send
  | tryForce (m : Nat)  -- WeakSender::try_force_send
  | call (m : Nat)      -- Addr::call / OwningAddr::call
  | callw (m : Nat)     -- Caller::call
  | tryCall (m : Nat)   -- WeakCaller::try_call
  | ping
  | halt
  | tryHalt
  | await
  | join
  | consume
  deriving DecidableEq, Repr, Inhabited

inductive ErrKind where
  | send | canceled | alreadyStopped | timeout | other
  deriving DecidableEq, Repr, Inhabited

/-- A reply value: message id, birth id of the value, digest. -/
structure Reply where
  m : Nat
  birth : Nat
  digest : List Nat
  deriving DecidableEq, Repr, Inhabited

/-- Final value handed out by join: birth, `stopped` seen, digest. -/
structure Final where
  birth : Nat
  stoppedSeen : Bool
  digest : List Nat
  deriving DecidableEq, Repr, Inhabited

inductive Res where
  | ok
  | okReply (r : Reply)
  | err (e : ErrKind)
  | none
  | some (f : Final)
  deriving DecidableEq, Repr, Inhabited

/-- API entry points whose submission path is read from the source. -/
inductive ApiOp where
  | addrSend | senderSend | callerCall | addrCall | addrPing | addrStop | addrRestart
  | ctxStop | ctxRestart | sendToChildren | brokerFanout
  deriving DecidableEq, Repr, Inhabited

inductive LivenessQuery where
  | truthful   -- answers from the latch itself
  | peekOnly   -- `Shared::peek`: only after some clone has been polled to completion
  | unknown
  deriving DecidableEq, Repr, Inhabited

/-- Structural facts read off `/repo`'s source by the translator
    (`Generated/Wiring.lean` defines `Wiring.current`). -/
structure Wiring where
  holds : HKind → List Half
  upgradeReq : HKind → List Half
  ctxStopReq : List Half
  ctxRestartReq : List Half
  ctxAddressReq : List Half
  path : ApiOp → Path
  timerPath : TimerKind → Path
  /-- `R::refresh` calls `stopped` before `started` (restartable strategies) -/
  refreshStopsThenStarts : Bool
  /-- `R::refresh` aborts the timers registered so far -/
  refreshResetsTimers : Bool
  /-- after the loop: `stopped()` completes before `notify()` -/
  notifyAfterStopped : Bool
  /-- stream loop: `finished()` before `stopped()` -/
  finishedBeforeStopped : Bool
  livenessQuery : LivenessQuery
  /-- `already_running` maps the entry through `running` (true) or `stopped` (false) -/
  alreadyRunningPolarity : Bool

end Hannibal
