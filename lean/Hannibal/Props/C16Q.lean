import Hannibal.Proofs.C16QSys
/-
  C16q (`send_to_children` delivers the message exactly once to every child registered under that message
  type - the "at least once" half): in every run of every system, at every quiescent point of an actor that was
  never cut (nobody asked it to stop or restart, it has not failed, no handler of it timed out, its stream - if
  it is stream-attached - has not ended) nothing is owed to it any more: it has taken every broadcast up
  exactly once per registration (`monC16` gives "at most once, only if registered", `monC16q` "no copy
  missing").

  The clause as first written (`monC16qOrig` below: `streamEnd` not among the cuts) is FALSE of the model:
  a stream-attached child leaves its loop when its stream ends, whatever is queued (`c16qStreamWitness`).
  `Monitor/C16.lean` therefore exempts actors whose stream has ended (C13 says such an actor terminates with
  its stream); the repaired monitor accepts every trace the first one accepts (`monC16q_lenient`) and differs
  from it only on actors that had a `streamEnd`.
-/
namespace Hannibal
open AState C16Q

/-- **C16, every registered child gets every broadcast.**  For every wiring in which the strong handle kinds own
    the channel closures and the weak kinds own nothing and must upgrade, in every run of every system (any
    number of actors, any parent → child graph: several parents, a child registered twice, an actor that is its
    own parent, cycles): whenever an actor is quiescent and was never cut - no stop or restart request was issued
    for it, it has not failed, no handler of it timed out, its stream has not ended - it has taken up every
    broadcast sent so far to it exactly once per registration it had under the broadcast's type with the
    broadcasting parent when the broadcast was sent. -/
theorem C16q_holds (w : Wiring) (hw : WellWired05 w) (ls : List SLabel) (S : Sys)
    (hr : srun w Sys.init ls = some S) : monC16q.ok ls = true := by
  unfold SMon.ok
  obtain ⟨σ', hm, _⟩ := srun_lift monC16q w (fun S σ => SInv S ∧ C16Inv S σ.base ∧ QInv S σ)
    (fun S S' σ l ⟨hsi, hci, hqi⟩ hs =>
      let ⟨hb, hq1⟩ := qinv_step hw hsi hci.kids hqi hs
      ⟨next16q σ l, by rw [monC16q_step, hb]; rfl, sinv_step hsi hs, (c16_step hci hs).2, hq1⟩)
    ls Sys.init S monC16q.init
    ⟨sinv_init, ⟨rfl, by intro c sc b hg; simp [Sys.init, Sys.get] at hg⟩,
      ⟨fun _ _ _ => rfl, by intro c sc hg; simp [Sys.init, Sys.get] at hg⟩⟩ hr
  simp [hm]

/-- the cuts of the clause as first written: the end of the stream is missing -/
def cutsOrig (l : Label) : Bool :=
  issuesStop l || l.isFailure || (match l with | .cbAbandon _ | .restartReq _ _ | .ctxRestart _ => true | _ => false)

/-- `monC16q` as first written -/
def monC16qOrig : SMon C16qSt where
  init := { base := { kids := [], owed := fun _ _ => 0, issued := [] }, stopped := [] }
  step st l :=
    let st' : C16qSt := { st with base := next16 st.base l }
    match l with
    | .act a (.quiescent _) =>
      if !st.stopped.contains a && st.base.issued.any (fun b => st.base.owed b a > 0) then none else some st'
    | .act a l' => if cutsOrig l' then some { st' with stopped := a :: st'.stopped } else some st'
    | _ => some st'

theorem cuts_of_orig {l : Label} (h : cutsOrig l = true) : cuts l = true := by
  cases l <;> first | exact h | cases h

def next16qOrig (σ : C16qSt) (l : SLabel) : C16qSt :=
  { base := next16 σ.base l
    stopped := (match l with
      | .act a l' => if cutsOrig l' then a :: σ.stopped else σ.stopped
      | _ => σ.stopped) }

theorem monC16qOrig_step (σ : C16qSt) (l : SLabel) :
    monC16qOrig.step σ l = if bad16q σ l then none else some (next16qOrig σ l) := by
  cases l with
  | spawn | addChild | bcast => rfl
  | act a l => cases l <;> first | exact some_stopped_ite .. | rfl

/-- the repair only exempts: whatever the clause as first written accepts, `monC16q` accepts -/
theorem monC16q_lenient_step {σo σn σo' : C16qSt} {l : SLabel}
    (hi : σo.base = σn.base ∧ ∀ a, σo.stopped.contains a = true → σn.stopped.contains a = true)
    (hok : monC16qOrig.step σo l = some σo') :
    ∃ σn', monC16q.step σn l = some σn' ∧
      σo'.base = σn'.base ∧ ∀ a, σo'.stopped.contains a = true → σn'.stopped.contains a = true := by
  obtain ⟨hb, hst⟩ := hi
  rw [monC16qOrig_step] at hok
  rw [monC16q_step]
  -- fewer actors are exempt in the first version, so its guard fires whenever the repaired one does
  have hbad : bad16q σn l = true → bad16q σo l = true := by
    unfold bad16q; split
    · rw [hb]
      simp only [Bool.and_eq_true, Bool.not_eq_true']
      rintro ⟨h1, h2⟩
      refine ⟨?_, h2⟩
      cases h : σo.stopped.contains _
      · rfl
      · rw [hst _ h] at h1; cases h1
    · exact id
  cases ho : bad16q σo l
  · have hn : bad16q σn l = false := by
      cases hn : bad16q σn l
      · rfl
      · rw [hbad hn] at ho; cases ho
    simp only [ho, hn, Bool.false_eq_true, if_false] at hok ⊢
    obtain rfl := Option.some.inj hok
    refine ⟨_, rfl, by simp only [next16qOrig, next16q, hb], fun c hc => ?_⟩
    cases l with
    | act a l' =>
      simp only [next16qOrig, next16q] at hc ⊢
      by_cases hco : cutsOrig l' = true
      · simp only [hco, cuts_of_orig hco, if_true, List.contains_cons, Bool.or_eq_true] at hc ⊢
        exact hc.imp_right (hst c)
      · simp only [hco, Bool.false_eq_true, if_false] at hc
        split
        · simp only [List.contains_cons, Bool.or_eq_true]; exact .inr (hst c hc)
        · exact hst c hc
    | _ => exact hst c hc
  · simp [ho] at hok

theorem monC16q_lenient (ls : List SLabel) (h : monC16qOrig.ok ls = true) : monC16q.ok ls = true := by
  obtain ⟨σo, ho⟩ := Option.isSome_iff_exists.mp h
  obtain ⟨_, hm, -⟩ := monC16qOrig.run_folds.sim monC16q.run_folds _ (fun _ _ _ _ => monC16q_lenient_step)
    ls _ σo _ ⟨rfl, fun _ h => h⟩ ho
  exact Option.isSome_iff_exists.mpr ⟨_, hm⟩

def c16qStreamCfg : Cfg := { cap := none, strat := .only, timeout := none, failOnTimeout := false, stream := true }

/-- the witness against the clause as first written: child 1 is stream-attached and registered with parent 0;
    its stream ends and its loop leaves; the parent broadcasts 7 (the child's mailbox is still open); the child
    runs `finished` and `stopped` and terminates, the queued broadcast is dropped with the mailbox.  Nobody
    stopped the child, it has not failed.  (`Props/C16QCurrent.lean`: a run of the model under today's wiring) -/
def c16qStreamWitness : List SLabel :=
  [ .spawn 0 c16Cfg 0 .addr, .spawn 1 c16qStreamCfg 1 .addr, .act 1 (.mk 1 11 .sender),
    .act 0 (.cbBegin .started), .addChild 0 1 1 11,
    .act 1 (.cbBegin .started), .act 1 (.cbEnd .started true),
    .act 1 .streamEnd, .act 1 .tStreamEnd, .bcast 0 1 7,
    .act 1 (.cbBegin .finished), .act 1 (.cbEnd .finished true),
    .act 1 (.cbBegin .stopped), .act 1 (.cbEnd .stopped true), .act 1 .taskDone,
    .act 1 (.quiescent []) ]
example : monC16qOrig.ok c16qStreamWitness = false := by decide
example : monC16q.ok c16qStreamWitness = true := by decide

/-- parent 0 registers child 1 twice under type 1 (handles 11 and 12) and itself once (handle 10); it broadcasts
    7; the child takes it up twice, the parent once; then both are quiescent -/
def c16qExample : List SLabel :=
  [ .spawn 0 c16Cfg 0 .addr, .spawn 1 c16Cfg 1 .addr, .act 1 (.mk 1 11 .sender), .act 1 (.mk 1 12 .sender),
    .act 0 (.mk 0 10 .sender),
    .act 0 (.cbBegin .started), .addChild 0 1 1 11, .addChild 0 1 1 12, .addChild 0 1 0 10, .bcast 0 1 7,
    .act 0 (.cbEnd .started true),
    .act 1 (.cbBegin .started), .act 1 (.cbEnd .started true),
    .act 1 (.extBegin 7 100), .act 1 (.cbBegin (.handle 100)), .act 1 (.cbEnd (.handle 100) true),
    .act 1 (.extBegin 7 101), .act 1 (.cbBegin (.handle 101)), .act 1 (.cbEnd (.handle 101) true),
    .act 1 (.quiescent []),
    .act 0 (.extBegin 7 102), .act 0 (.cbBegin (.handle 102)), .act 0 (.cbEnd (.handle 102) true),
    .act 0 (.quiescent []) ]
example : monC16q.ok c16qExample = true := by decide
example : monC16.ok c16qExample = true := by decide

-- a registered child is quiescent without having taken the broadcast up
example : monC16q.ok [ .spawn 0 c16Cfg 0 .addr, .spawn 1 c16Cfg 1 .addr, .act 1 (.mk 1 11 .sender),
    .act 0 (.cbBegin .started), .addChild 0 1 1 11, .bcast 0 1 7, .act 1 (.quiescent []) ] = false := by decide
-- a child registered twice took it up only once
example : monC16q.ok [ .spawn 0 c16Cfg 0 .addr, .spawn 1 c16Cfg 1 .addr, .act 1 (.mk 1 11 .sender),
    .act 1 (.mk 1 12 .sender), .act 0 (.cbBegin .started), .addChild 0 1 1 11, .addChild 0 1 1 12, .bcast 0 1 7,
    .act 1 (.extBegin 7 100), .act 1 (.quiescent []) ] = false := by decide
-- a child that was asked to stop is exempt
example : monC16q.ok [ .spawn 0 c16Cfg 0 .addr, .spawn 1 c16Cfg 1 .addr, .act 1 (.mk 1 11 .sender),
    .act 0 (.cbBegin .started), .addChild 0 1 1 11, .act 1 (.stopReq 1 true), .bcast 0 1 7,
    .act 1 (.quiescent []) ] = true := by decide

end Hannibal
