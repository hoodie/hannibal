import Hannibal.Proofs.C04QRel
import Hannibal.Monitor.C11
import Hannibal.Proofs.C11CQueue
import Hannibal.Props.C01
/-
  C11c (the caller of an abandoned invocation receives an error): every run of the actor model whose
  labels use fresh message numbers and fresh operation ids (`wf01`, the hypothesis of C01) is accepted by
  `monC11c`, the third clause of `monC11p`.

  Why: a call operation `o` submits `msg m (some o)`; as long as message numbers are fresh this is the only
  mailbox entry that ever carries `m`, so the invocation `handling (handle m) slot _` that is abandoned has
  `slot = some o` (unless the submission was refused: the operation failed at once).  `stepCbAbandon` cancels
  that slot; the operation cannot have been answered before (C01: the reply of `m` is produced at the end of
  its handler, which has not ended), and a status other than `pending` never changes.  `retExpect` of a
  call that is `cancelled` / `failed` is an error.
-/
namespace Hannibal
open AState

theorem monC11c_step (c : MonCtx) (σ : C11cSt) (l : Label) :
    (monC11c c).step σ l = if bad11c σ l then none else some (next11c σ l) := rfl

theorem next11c_ops_of_not_begin {σ : C11cSt} {l : Label} (h : ∀ o h k, l ≠ .begin o h k) :
    (next11c σ l).ops = σ.ops := by
  cases l <;> try rfl
  case begin => exact absurd rfl (h _ _ _)
  case cbAbandon cb =>
    cases cb <;> try rfl
    dsimp only [next11c]; split <;> rfl

theorem mem_next11c_abandoned {σ : C11cSt} {l : Label} {m : Nat} (h : m ∈ (next11c σ l).abandoned) :
    m ∈ σ.abandoned ∨ (l = .cbAbandon (.handle m) ∧ σ.cancelled = false) := by
  cases l <;> first | exact .inl h | skip
  case begin o h' k => dsimp only [next11c] at h; split at h <;> exact .inl h
  case cbAbandon cb =>
    cases cb <;> first | exact .inl h | skip
    dsimp only [next11c] at h
    split at h
    · exact .inl h
    · rename_i hc
      rcases List.mem_cons.mp h with rfl | h
      · exact .inr ⟨rfl, by simpa using hc⟩
      · exact .inl h

theorem next11c_cancelled {σ : C11cSt} {l : Label} (h : l ≠ .cancel) :
    (next11c σ l).cancelled = σ.cancelled := by
  cases l <;> try rfl
  case begin o h' k => dsimp only [next11c]; cases callMsg11c k <;> rfl
  case cbAbandon cb =>
    cases cb <;> try rfl
    dsimp only [next11c]; split <;> rfl
  case cancel => exact absurd rfl h

/-! ### `monC11c` is at least as strict as the third clause of `monC11p`

  Run both monitors side by side: they keep the same operation table and `cancelled` flag, and whatever
  `monC11p` calls abandoned `monC11c` calls abandoned too; so a `ret` that `monC11p` rejects is rejected
  by `monC11c`.  (The other rejections of `monC11p` — at `cbEnd` / `cbAbandon` — are its timing clauses.) -/

def Rel11c (σ : C11cSt) (π : C11pSt) : Prop :=
  σ.ops = π.ops ∧ σ.cancelled = π.cancelled ∧ ∀ m ∈ π.abandoned, m ∈ σ.abandoned

theorem callMsg11c_eq (k : OpKind) :
    callMsg11c k = (match k.isCall, k.msg? with | true, some m => some m | _, _ => none) := by
  cases k <;> rfl

theorem c11c_covers_init (c : MonCtx) : Rel11c (monC11c c).init (monC11p c).init :=
  ⟨rfl, rfl, fun _ h => nomatch h⟩

theorem c11c_covers_next (c : MonCtx) {σ : C11cSt} {π π' : C11pSt} {l : Label} (h : Rel11c σ π)
    (hp : (monC11p c).step π l = some π') : Rel11c (next11c σ l) π' := by
  obtain ⟨h1, h2, h3⟩ := h
  cases l <;> dsimp only [monC11p] at hp <;> first | (cases hp; exact ⟨h1, h2, h3⟩) | skip
  case begin o hh k =>
    cases k <;> cases hp <;> first | exact ⟨h1, h2, h3⟩ | exact ⟨congrArg _ h1, h2, h3⟩
  case ret o r =>
    split at hp
    · split at hp <;> cases hp
      exact ⟨h1, h2, h3⟩
    · cases hp; exact ⟨h1, h2, h3⟩
  case cbBegin cb => cases cb <;> cases hp <;> exact ⟨h1, h2, h3⟩
  case work d => split at hp <;> cases hp <;> exact ⟨h1, h2, h3⟩
  case cbEnd cb ok =>
    cases cb <;> dsimp only at hp <;> first | (cases hp; exact ⟨h1, h2, h3⟩) | skip
    split at hp
    · split at hp <;> cases hp
      exact ⟨h1, h2, h3⟩
    · cases hp; exact ⟨h1, h2, h3⟩
  case cbAbandon cb =>
    cases cb <;> dsimp only at hp <;> first | (cases hp; exact ⟨h1, h2, h3⟩) | skip
    rename_i m
    unfold Rel11c
    dsimp only [next11c]
    split at hp
    · rename_i hc
      cases hp
      rw [if_pos (h2.trans hc)]; exact ⟨h1, h2, h3⟩
    · rename_i hc
      rw [if_neg (h2 ▸ hc)]
      -- `monC11p` records `m` only if it believes a handler invocation with a deadline to be open
      have h3' : ∀ x ∈ π.abandoned, x ∈ m :: σ.abandoned := fun x hx => List.mem_cons_of_mem _ (h3 x hx)
      split at hp
      · split at hp <;> cases hp
        exact ⟨h1, h2, fun x hx => (List.mem_cons.mp hx).elim (fun h => h ▸ List.mem_cons_self) (h3' x)⟩
      · cases hp; exact ⟨h1, h2, h3'⟩
  case cancel => cases hp; exact ⟨h1, rfl, h3⟩

theorem c11c_covers_ret (c : MonCtx) {σ : C11cSt} {π : C11pSt} {o : Nat} {r : Res} (h : Rel11c σ π)
    (hp : (monC11p c).step π (.ret o r) = none) : bad11c σ (.ret o r) = true := by
  obtain ⟨h1, h2, h3⟩ := h
  dsimp only [monC11p] at hp
  dsimp only [bad11c]
  rw [h1]
  split at hp
  · rename_i m hl
    split at hp
    · rename_i hc
      simp only [hl, Bool.and_eq_true, List.contains_iff_mem] at hc ⊢
      exact ⟨h3 m hc.1, hc.2⟩
    · cases hp
  · cases hp

/-- statuses other than `pending` / `answered`: they never change, and a call operation in one of them
    can only return an error -/
def errLike11c : OpSt → Bool
  | .pending | .answered _ => false
  | _ => true

theorem errLike11c_not_pending {st : OpSt} (h : errLike11c st = true) : st ≠ .pending := by
  intro he; subst he; simp [errLike11c] at h

theorem retExpect_err11c {s : AState} {rec : OpRec} {m : Nat} {r : Res} (hk : callMsg11c rec.kind = some m)
    (he : errLike11c rec.st = true) (h : s.retExpect rec = some r) : r.isErr = true := by
  cases retExpect_row h with
  | sent hst | fired hst | answered _ hst => rw [hst] at he; cases he
  | pinged _ hk' | joinNone _ hk' | joinedNone _ _ hk' => rw [hk'] at hk; cases hk
  | joined _ _ _ hk' => rcases hk' with hk' | hk' <;> (rw [hk'] at hk; cases hk)
  | _ => rfl

def Seen11c (s : AState) (g : Wf01St) : Prop :=
  ∀ rec ∈ s.ops, ∀ m, callMsg11c rec.kind = some m → m ∈ g.seenM

/-- the message `m` (waiting with reply slot `slot`, or being handled with it) was seen, and a call
    operation that submitted `m` is the owner of that slot unless it is past answering -/
def Own11c (s : AState) (g : Wf01St) (m : Nat) (slot : Option Nat) : Prop :=
  m ∈ g.seenM ∧ ∀ rec ∈ s.ops, callMsg11c rec.kind = some m → errLike11c rec.st = true ∨ slot = some rec.o

theorem new11c_fresh {g : Wf01St} {l : Label} {x : Nat × Option Nat} (hn : New11c l x)
    (hg : wfBad g l = false) : x.1 ∉ g.seenM ∧ x.1 ∈ (wfNext g l).seenM := by
  cases l <;> first | (cases hn; done) | skip
  case begin o h k => exact ⟨begin_fresh hg hn.1, by simp [wfNext, hn.1]⟩
  case fire t mo => cases hn; exact ⟨by simpa [wfBad] using hg, List.mem_cons_self⟩
  case tickBegin t m => cases hn; exact ⟨by simpa [wfBad] using hg, List.mem_cons_self⟩
  case extBegin b m => cases hn; exact ⟨by simpa [wfBad] using hg, List.mem_cons_self⟩

theorem seen11c_step {w s l s'} {g : Wf01St} (hi : Seen11c s g) (hs : step w s l = some s') :
    Seen11c s' (wfNext g l) := by
  intro rec' hrec' m hm
  rcases step_op_mem hs hrec' with ⟨rfl, -⟩ | ⟨r, hr, -, hk, -⟩
  · simp [wfNext, callMsg11c_msg hm]
  · rw [hk] at hm
    exact wf_seenM_mono g _ m (hi r hr m hm)

theorem own11c_step {w s l s'} {g : Wf01St} {m : Nat} {slot : Option Nat} (hi : Own11c s g m slot)
    (hs : step w s l = some s') (hg : wfBad g l = false) : Own11c s' (wfNext g l) m slot := by
  refine ⟨wf_seenM_mono g l m hi.1, ?_⟩
  intro rec' hrec' hm
  rcases step_op_mem hs hrec' with ⟨rfl, -⟩ | ⟨r, hr, ho, hk, -, hst, -⟩
  · exact absurd hi.1 (begin_fresh hg (callMsg11c_msg hm))
  · rw [hk] at hm
    rw [ho]
    exact (hi.2 r hr hm).imp_left fun he => by rw [hst.resolve_right (errLike11c_not_pending he)]; exact he

theorem own11c_new {w s l s'} {g : Wf01St} {x : Nat × Option Nat} (hn : New11c l x) (hseen : Seen11c s g)
    (hs : step w s l = some s') (hg : wfBad g l = false) : Own11c s' (wfNext g l) x.1 x.2 := by
  obtain ⟨hfresh, hin⟩ := new11c_fresh hn hg
  refine ⟨hin, ?_⟩
  intro rec' hrec' hm
  rcases step_op_mem hs hrec' with ⟨rfl, -⟩ | ⟨r, hr, -, hk, -⟩
  · exact .inr (hn.2 hm)
  · rw [hk] at hm
    exact absurd (hseen r hr _ hm) hfresh

structure Inv11c (s : AState) (σ : C11cSt) (g : Wf01St) : Prop where
  /-- the invariant of C01 (for some state of its monitor): a reply is produced at the end of its handler -/
  c01 : ∃ σ1 : C01St, C01Inv s σ1 g
  tbl : ∀ rec ∈ s.ops, lookup rec.o σ.ops = callMsg11c rec.kind
  fresh : ∀ o, o ∉ g.seenO → lookup o σ.ops = none
  seen : Seen11c s g
  abseen : ∀ m ∈ σ.abandoned, m ∈ g.seenM
  /-- the clause: the call that submitted an abandoned message is past answering -/
  abn : ∀ rec ∈ s.ops, ∀ m, callMsg11c rec.kind = some m → m ∈ σ.abandoned → errLike11c rec.st = true
  cur : ∀ m slot dl, s.phase = .handling (.handle m) slot dl → Own11c s g m slot
  que : ∀ x ∈ qms11c s.chan, Own11c s g x.1 x.2
  canc : σ.cancelled = false → s.abandon = none

theorem tbl11c_step {w s l s'} {σ : C11cSt} {g : Wf01St} (hi : Inv11c s σ g) (hs : step w s l = some s')
    (hg : wfBad g l = false) :
    (∀ rec ∈ s'.ops, lookup rec.o (next11c σ l).ops = callMsg11c rec.kind) ∧
      (∀ o, o ∉ (wfNext g l).seenO → lookup o (next11c σ l).ops = none) := by
  by_cases hb : ∃ o h k, l = .begin o h k
  · obtain ⟨o, h, k, rfl⟩ := hb
    obtain ⟨hfresh, st, hops, -⟩ := stepBegin_ops hs
    have ho : o ∉ g.seenO := by
      simp only [wfBad, Bool.or_eq_false_iff] at hg; simpa using hg.1
    have other : ∀ o', o ≠ o' → lookup o' (next11c σ (.begin o h k)).ops = lookup o' σ.ops := by
      intro o' hne
      dsimp only [next11c]; split
      · exact lookup_cons_ne hne
      · rfl
    refine ⟨fun rec hrec => ?_, fun o' ho' => ?_⟩
    · rw [hops] at hrec
      rcases List.mem_append.mp hrec with hrec | hrec
      · rw [other _ (findOp_none_ne hfresh rec hrec).symm]; exact hi.tbl rec hrec
      · obtain rfl := List.mem_singleton.mp hrec
        dsimp only [next11c]; split
        · rename_i m hk; rw [hk]; exact lookup_cons_eq
        · rename_i hk; rw [hk]; exact hi.fresh o ho
    · rw [other _ (fun he => ho' (he ▸ List.mem_cons_self))]
      exact hi.fresh o' (fun hh => ho' (List.mem_cons_of_mem _ hh))
  · have hnb : ∀ o h k, l ≠ .begin o h k := fun o h k he => hb ⟨o, h, k, he⟩
    rw [next11c_ops_of_not_begin hnb]
    refine ⟨?_, ?_⟩
    · intro rec hrec
      obtain ⟨r, hr, ho, hk, -⟩ := (step_op_mem hs hrec).resolve_left fun h => hnb _ _ _ h.1
      rw [ho, hk]; exact hi.tbl r hr
    · intro o ho
      rw [wfNext_seenO_of_not_begin hnb] at ho
      exact hi.fresh o ho

theorem not_answered11c {s : AState} {σ1 : C01St} {g : Wf01St} (h01 : C01Inv s σ1 g) {m : Nat}
    {slot dl : Option Nat} (hp : s.phase = .handling (.handle m) slot dl) {rec : OpRec} (hrec : rec ∈ s.ops)
    (hm : callMsg11c rec.kind = some m) (rep : Reply) : rec.st ≠ .answered rep := by
  intro hst
  have h1 := (h01.ans.ans rec hrec rep hst m (callMsg11c_msg hm)).2
  have h2 := (h01.ans.cur m slot dl hp).2.1
  rw [h2] at h1; simp at h1

theorem cbAbandon_deadline11c {w s cb s'} (hs : step w s (.cbAbandon cb) = some s') (ha : s.abandon = none) :
    ∃ slot dl, s.phase = .handling cb slot (some dl) ∧ s'.ops = s.ops.map (resolve (fun r => slot.toList.contains r.o) .cancelled) := by
  cases step_loop hs rfl
  case dropGuard hp ha' => rw [ha] at ha'; cases ha'
  all_goals exact ⟨_, _, ‹_›, rfl⟩

theorem abn11c_step {w s l s'} {σ : C11cSt} {g : Wf01St} (hi : Inv11c s σ g) (hs : step w s l = some s')
    (hg : wfBad g l = false) :
    ∀ rec ∈ s'.ops, ∀ m, callMsg11c rec.kind = some m → m ∈ (next11c σ l).abandoned →
      errLike11c rec.st = true := by
  intro rec' hrec' m hk hin
  rcases mem_next11c_abandoned hin with hm | ⟨rfl, hc⟩
  · rcases step_op_mem hs hrec' with ⟨rfl, -⟩ | ⟨r, hr, -, hkd, -, hst, -⟩
    · exact absurd (hi.abseen m hm) (begin_fresh hg (callMsg11c_msg hk))
    · rw [hkd] at hk
      have he := hi.abn r hr m hk hm
      rw [hst.resolve_right (errLike11c_not_pending he)]; exact he
  · obtain ⟨σ1, h01⟩ := hi.c01
    obtain ⟨slot, dl, hp, hops⟩ := cbAbandon_deadline11c hs (hi.canc hc)
    rw [hops] at hrec'
    obtain ⟨r, hr, rfl⟩ := List.mem_map.mp hrec'
    rw [resolve_kind] at hk
    have hold : errLike11c r.st = true → errLike11c (resolve (fun r => slot.toList.contains r.o) .cancelled r).st = true := by
      intro he
      rw [resolve_keep _ _ (errLike11c_not_pending he)]; exact he
    rcases (hi.cur m slot (some dl) hp).2 r hr hk with he | hsl
    · exact hold he
    · cases hst : r.st with
      | pending => rw [resolve_pending _ (by simp [hsl]) hst]; rfl
      | answered rep => exact absurd hst (not_answered11c h01 hp hr hk rep)
      | _ => exact hold (by rw [hst]; rfl)

theorem abseen11c_step {w s l s'} {σ : C11cSt} {g : Wf01St} (hi : Inv11c s σ g) (hs : step w s l = some s') :
    ∀ m ∈ (next11c σ l).abandoned, m ∈ (wfNext g l).seenM := by
  intro m hm
  refine wf_seenM_mono g _ m ?_
  rcases mem_next11c_abandoned hm with hm | ⟨rfl, hc⟩
  · exact hi.abseen m hm
  · obtain ⟨slot, dl, hp, -⟩ := cbAbandon_deadline11c hs (hi.canc hc)
    exact (hi.cur m slot (some dl) hp).1

theorem cur11c_step {w s l s'} {σ : C11cSt} {g : Wf01St} (hi : Inv11c s σ g) (hs : step w s l = some s')
    (hg : wfBad g l = false) :
    ∀ m slot dl, s'.phase = .handling (.handle m) slot dl → Own11c s' (wfNext g l) m slot := by
  intro m slot dl hp
  by_cases hb : ∃ cb, l = .cbBegin cb
  · obtain ⟨cb, rfl⟩ := hb
    have hs0 := hs
    simp only [step] at hs0
    obtain ⟨rfl, tok, rest, hq⟩ := (stepCbBegin_handling hs0).2 m slot dl hp
    refine own11c_step (hi.que (m, slot) ?_) hs hg
    simp [qms11c, hq, msgSlot11c]
  · have hnb : ∀ cb, l ≠ .cbBegin cb := fun cb he => hb ⟨cb, he⟩
    exact own11c_step (hi.cur m slot dl (step_handling_same w hs hnb hp)) hs hg

theorem que11c_step {w s l s'} {σ : C11cSt} {g : Wf01St} (hi : Inv11c s σ g) (hs : step w s l = some s')
    (hg : wfBad g l = false) : ∀ x ∈ qms11c s'.chan, Own11c s' (wfNext g l) x.1 x.2 := by
  intro x hx
  rcases step_qms11c hs x hx with hold | hnew
  · exact own11c_step (hi.que x hold) hs hg
  · exact own11c_new hnew hi.seen hs hg

theorem canc11c_step {w s l s'} {σ : C11cSt} {g : Wf01St} (hi : Inv11c s σ g) (hs : step w s l = some s') :
    (next11c σ l).cancelled = false → s'.abandon = none := by
  intro hc
  by_cases hl : l = .cancel
  · subst hl; simp [next11c] at hc
  · rw [next11c_cancelled hl] at hc
    exact step_abandon_none hs hl (hi.canc hc)

theorem bad11c_step {s s' : AState} {σ : C11cSt} {g : Wf01St} {l : Label} {w : Wiring} (hi : Inv11c s σ g)
    (hs : step w s l = some s') : bad11c σ l = false := by
  cases l <;> try rfl
  case ret o r =>
    simp only [step] at hs
    obtain ⟨rec, hfind, hexp, -, hro⟩ := stepRet_ops hs
    obtain ⟨hrec, _⟩ := findOp_some_mem hfind
    have htbl := hi.tbl rec hrec
    rw [hro] at htbl
    simp only [bad11c, htbl]
    cases hk : callMsg11c rec.kind with
    | none => rfl
    | some m =>
      simp only
      by_cases hin : m ∈ σ.abandoned
      · have := retExpect_err11c hk (hi.abn rec hrec m hk hin) hexp
        simp [this]
      · simp [hin]

theorem c11c_step (w : Wiring) {s s' : AState} {σ : C11cSt} {g : Wf01St} {l : Label} (hi : Inv11c s σ g)
    (hs : step w s l = some s') (hg : wfBad g l = false) :
    bad11c σ l = false ∧ Inv11c s' (next11c σ l) (wfNext g l) := by
  refine ⟨bad11c_step hi hs, ?_⟩
  obtain ⟨σ1, h01⟩ := hi.c01
  obtain ⟨htbl, hfresh⟩ := tbl11c_step hi hs hg
  exact ⟨⟨_, (c01_step w h01 hs hg).2⟩, htbl, hfresh, seen11c_step hi.seen hs, abseen11c_step hi hs,
    abn11c_step hi hs hg, cur11c_step hi hs hg, que11c_step hi hs hg, canc11c_step hi hs⟩

theorem c11c_init (c : MonCtx) : Inv11c (AState.init c.cfg c.h0 c.k0) (monC11c c).init monWf01.init := by
  refine ⟨⟨_, c01_init c⟩, ?_, ?_, ?_, ?_, ?_, ?_, ?_, ?_⟩ <;>
    simp [monC11c, monWf01, AState.init, Seen11c, qms11c, Chan.init, lookup]

/-- **C11c (the caller of an abandoned invocation receives an error).**  In every run of the actor model —
    every wiring, every timeout value, `fail_on_timeout` on or off, both mailbox kinds, every handle kind,
    every termination cause — whose trace never re-uses a message number or an operation id (`wf01`):
    once the handler invocation of message `m` has been abandoned at its deadline (a `cbAbandon (handle m)`
    that is not the drop guard after a `cancel`), the `call` / `Caller::call` / `try_call` operation that
    submitted `m` can only return an error. -/
theorem C11c_holds (w : Wiring) (c : MonCtx) (ls : List Label) (s : AState)
    (hr : run w (AState.init c.cfg c.h0 c.k0) ls = some s) (hwf : wf01 ls = true) :
    (monC11c c).ok ls = true :=
  ok_of_run_lift_wf (monC11c c) monWf01 w Inv11c
    (fun s s' σ g g' l hi hs hg => by
      obtain ⟨hb, rfl⟩ := monWf01_step hg
      obtain ⟨hbad, hi'⟩ := c11c_step w hi hs hb
      exact ⟨_, by rw [monC11c_step, hbad]; rfl, hi'⟩)
    _ (c11c_init c) ls s hr hwf

/-! ### non-vacuity (monitor only; the runs of `Wiring.current` are in `Props/C11CCurrent.lean`) -/

def c11cCfg : Cfg := { cap := none, strat := .only, timeout := some 5, failOnTimeout := false, stream := false }
def c11cCtx : MonCtx := { cfg := c11cCfg, h0 := 0, k0 := .addr, prompt := true }

/-- a call whose invocation needs 9 with a timeout of 5 is abandoned at the deadline; the caller gets
    `canceled`; the next call is served -/
def c11cExample : List Label :=
  [ .cbBegin .started, .cbEnd .started true, .begin 0 0 (.call 1), .begin 1 0 (.call 2), .cbBegin (.handle 1),
    .work 9, .time 5, .cbAbandon (.handle 1), .ret 0 (.err .canceled), .cbBegin (.handle 2),
    .cbEnd (.handle 2) true, .ret 1 (.okReply { m := 2, birth := 0, digest := [1, 2] }) ]

example : (monC11c c11cCtx).ok c11cExample = true := by decide
example : wf01 c11cExample = true := by decide
example : (monC11p c11cCtx).ok c11cExample = true := by decide

/-- bad: the caller of the abandoned invocation gets a reply -/
example : (monC11c c11cCtx).ok (c11cExample.take 8 ++
    [ .ret 0 (.okReply { m := 1, birth := 0, digest := [1] }) ]) = false := by decide
/-- bad: a `Caller::call` whose invocation was abandoned returns `ok` -/
example : (monC11c c11cCtx).ok [ .cbBegin .started, .cbEnd .started true, .mk 0 1 .caller, .begin 0 1 (.callw 1),
    .cbBegin (.handle 1), .time 5, .cbAbandon (.handle 1), .ret 0 .ok ] = false := by decide
/-- fine: after `cancel` a `cbAbandon` is the drop guard of the interrupted callback, not a timeout -/
example : (monC11c c11cCtx).ok [ .cbBegin .started, .cbEnd .started true, .begin 0 0 (.call 1),
    .cbBegin (.handle 1), .cancel, .cbAbandon (.handle 1), .ret 0 (.err .canceled) ] = true := by decide

end Hannibal
