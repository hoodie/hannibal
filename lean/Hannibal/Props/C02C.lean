import Hannibal.Monitor.C02C
import Hannibal.Proofs.C02CStep
import Hannibal.Props.C11C
/-
  C02c (a call whose own message was handled to completion does not return an error): every run of the actor
  model whose labels use fresh message numbers and fresh operation ids (`wf01`, the hypothesis of C01 and
  C11c) is accepted by `monC02c`.

  Why: a call operation `o` submits `msg m (some o)`; with fresh message numbers this is the only mailbox
  entry that ever carries `m`, so as long as `m` waits in the mailbox or is being handled its reply slot is
  `some o` and `o` is neither failed (a refused submission enqueues nothing) nor cancelled: slots are
  cancelled when their own invocation is abandoned / panics (then `m` is no longer being handled, and it is
  not waiting either — C01: at most once), or when the loop goes away (then the mailbox is dropped).  The
  normal end of the invocation (`stepCbEnd`) answers the slot: `o` is `answered` from then on (a status other
  than `pending` never changes), and `retExpect` of an answered call is `okReply`.  If the client dropped the
  future (`cdrop`) there is no record and no `ret`.  This is the mirror image of `Props/C11C.lean`, whose
  invariant (`Inv11c`: the operation tables, `Seen11c`, and C01's invariant) is reused as the base.
-/
namespace Hannibal
open AState

theorem monC02c_step (σ : C02cSt) (l : Label) :
    monC02c.step σ l = if bad02c σ l then none else some (next02c σ l) := rfl

theorem next02c_calls {σ : C02cSt} {σ' : C11cSt} (l : Label) (h : σ'.ops = σ.calls) :
    (next11c σ' l).ops = (next02c σ l).calls := by
  cases l <;> try exact h
  case begin o hh k =>
    simp only [next11c, next02c]
    cases k <;> simp [callMsg11c, OpKind.isCall, OpKind.msg?, h]
  case cbEnd cb ok => cases cb <;> cases ok <;> exact h
  case cbAbandon cb =>
    cases cb <;> try exact h
    simp only [next11c]; split <;> exact h

theorem next02c_done {σ : C02cSt} {l : Label} (h : ∀ m, l ≠ .cbEnd (.handle m) true) :
    (next02c σ l).done = σ.done := by
  cases l <;> try rfl
  case begin o hh k => simp only [next02c]; split <;> rfl
  case cbEnd cb ok => cases cb <;> cases ok <;> first | rfl | exact absurd rfl (h _)

theorem retExpect_ok02c {s : AState} {rec : OpRec} {m : Nat} {r : Res} (hk : callMsg11c rec.kind = some m)
    (he : okSt02c rec.st = true) (h : s.retExpect rec = some r) : r.isErr = false := by
  cases retExpect_row h with
  | failed _ hst | cancelled hst | sent hst | fired hst | dropped hst => rw [hst] at he; cases he
  | consumedNone _ _ hk' | consumeNone _ hk' => rw [hk'] at hk; cases hk
  | _ => rfl

def Own02c (s : AState) (g : Wf01St) (m : Nat) (slot : Option Nat) : Prop :=
  m ∈ g.seenM ∧ ∀ rec ∈ s.ops, callMsg11c rec.kind = some m → errSt02c rec.st = false ∧ slot = some rec.o

theorem own02c_step {w s l s'} {g : Wf01St} {m : Nat} {slot : Option Nat} (hi : Own02c s g m slot)
    (hs : step w s l = some s') (hg : wfBad g l = false) (hk : l.isOpEdge = true ∨ Keep02c s s') :
    Own02c s' (wfNext g l) m slot := by
  refine ⟨wf_seenM_mono g l m hi.1, ?_⟩
  intro rec' hrec' hm
  by_cases hedge : l.isOpEdge = true
  · rcases edge_ops hs hedge rec' hrec' with ⟨hrec, -⟩ | ⟨o, h, k, st, rfl, -, rfl, -⟩
    · exact hi.2 rec' hrec hm
    · exact absurd hi.1 (begin_fresh hg (callMsg11c_msg hm))
  · rcases hk with hk | ⟨f, hf, fo, fk, fe⟩
    · exact absurd hk hedge
    · rw [hf] at hrec'
      obtain ⟨r, hr, rfl⟩ := List.mem_map.mp hrec'
      rw [fk] at hm
      obtain ⟨h1, h2⟩ := hi.2 r hr hm
      exact ⟨fe r h1, by rw [fo]; exact h2⟩

theorem own02c_new {w s l s'} {g : Wf01St} {x : Nat × Option Nat} (hn : New11c l x) (hseen : Seen11c s g)
    (hs : step w s l = some s') (hg : wfBad g l = false) (hedge : l.isOpEdge = false) :
    Own02c s' (wfNext g l) x.1 x.2 := by
  obtain ⟨hfresh, hin⟩ := new11c_fresh hn hg
  refine ⟨hin, ?_⟩
  intro rec' hrec' hm
  obtain ⟨f, hf, pf⟩ := step_ops hs hedge
  rw [hf] at hrec'
  obtain ⟨r, hr, rfl⟩ := List.mem_map.mp hrec'
  rw [pf.kind] at hm
  exact absurd (hseen r hr _ hm) hfresh

structure Inv02c (s : AState) (σ : C02cSt) (g : Wf01St) : Prop where
  base : ∃ σ' : C11cSt, Inv11c s σ' g ∧ σ'.ops = σ.calls
  slotcb : slotCb s.phase = true
  dseen : ∀ m ∈ σ.done, m ∈ g.seenM
  cur : ∀ m slot dl, s.phase = .handling (.handle m) slot dl → Own02c s g m slot
  que : ∀ x ∈ qms11c s.chan, Own02c s g x.1 x.2
  /-- the clause: the call that submitted a message handled to completion is past answering, and neither
      failed nor cancelled -/
  cls : ∀ rec ∈ s.ops, ∀ m, callMsg11c rec.kind = some m → m ∈ σ.done → okSt02c rec.st = true

/-- the operation whose reply slot the open handler invocation holds did not submit a message that is still
    waiting (C01: a message is handled at most once) -/
theorem cur_not_queued02c {s : AState} {σ1 : C01St} {g : Wf01St} (h01 : C01Inv s σ1 g)
    (hsl : slotCb s.phase = true) {r : OpRec} (hr : r ∈ s.ops) (hcur : r.o ∈ s.curSlot) {m : Nat}
    (hm : callMsg11c r.kind = some m) (hq : m ∈ qmsgs s.chan) : False := by
  cases hph : s.phase <;> simp [curSlot, hph] at hcur
  rename_i cb slot dl
  cases slot with
  | none => simp at hcur
  | some o =>
    simp at hcur
    obtain ⟨mc, rfl⟩ := slotCb_handle (hph ▸ hsl)
    obtain ⟨hh, -, hso⟩ := h01.ans.cur mc (some o) dl hph
    have h1 := (hso o rfl).2 r hr hcur
    rw [callMsg11c_msg hm] at h1
    simp at h1; subst h1
    exact h01.qc.disj m hq hh

theorem dseen02c_step {w s l s'} {σ : C02cSt} {g : Wf01St} (hi : Inv02c s σ g) (hs : step w s l = some s') :
    ∀ m ∈ (next02c σ l).done, m ∈ (wfNext g l).seenM := by
  intro m hm
  by_cases hl : ∃ m0, l = .cbEnd (.handle m0) true
  · obtain ⟨m0, rfl⟩ := hl
    simp only [next02c] at hm
    rcases List.mem_cons.mp hm with rfl | hm
    · obtain ⟨slot, dl, hp, -⟩ := stepCbEnd_handle02c hs
      exact wf_seenM_mono g _ m (hi.cur m slot dl hp).1
    · exact wf_seenM_mono g _ m (hi.dseen m hm)
  · rw [next02c_done (fun m0 he => hl ⟨m0, he⟩)] at hm
    exact wf_seenM_mono g _ m (hi.dseen m hm)

theorem cur02c_step {w s l s'} {σ : C02cSt} {g : Wf01St} (hi : Inv02c s σ g) (hs : step w s l = some s')
    (hg : wfBad g l = false) :
    ∀ m slot dl, s'.phase = .handling (.handle m) slot dl → Own02c s' (wfNext g l) m slot := by
  intro m slot dl hp
  have hk : l.isOpEdge = true ∨ Keep02c s s' := by
    by_cases hedge : l.isOpEdge = true
    · exact .inl hedge
    · rcases keep02c_cases hs (by simpa using hedge) with hk | ⟨_, _, hno⟩ | ⟨_, hno⟩
      · exact .inr hk
      · exact absurd hp (hno _ _ _)
      · exact absurd hp (hno _ _ _)
  by_cases hb : ∃ cb, l = .cbBegin cb
  · obtain ⟨cb, rfl⟩ := hb
    have hs0 := hs
    simp only [step] at hs0
    obtain ⟨rfl, tok, rest, hq⟩ := (stepCbBegin_handling hs0).2 m slot dl hp
    refine own02c_step (hi.que (m, slot) ?_) hs hg hk
    simp [qms11c, hq, msgSlot11c]
  · have hnb : ∀ cb, l ≠ .cbBegin cb := fun cb he => hb ⟨cb, he⟩
    exact own02c_step (hi.cur m slot dl (step_handling_same w hs hnb hp)) hs hg hk

theorem que02c_step {w s l s'} {σ : C02cSt} {g : Wf01St} (hi : Inv02c s σ g) (hs : step w s l = some s')
    (hg : wfBad g l = false) : ∀ x ∈ qms11c s'.chan, Own02c s' (wfNext g l) x.1 x.2 := by
  intro x hx
  obtain ⟨σ', h11, -⟩ := hi.base
  by_cases hedge : l.isOpEdge = true
  · rcases step_qms11c hs x hx with hold | hnew
    · exact own02c_step (hi.que x hold) hs hg (.inl hedge)
    · cases l <;> simp [Label.isOpEdge] at hedge
      case begin o h k =>
        obtain ⟨hfresh, hin⟩ := new11c_fresh hnew hg
        simp only [New11c] at hnew
        have hs0 := hs
        simp only [step] at hs0
        obtain ⟨st, hops, hch⟩ := stepBegin_push02c hs0
        refine ⟨hin, ?_⟩
        intro rec' hrec' hm
        rw [hops] at hrec'
        rcases List.mem_append.mp hrec' with hrec' | hrec'
        · exact absurd (h11.seen rec' hrec' _ hm) hfresh
        · simp at hrec'; subst hrec'
          rcases hch with hc | he
          · rw [hc] at hx
            exact absurd (hi.que x hx).1 hfresh
          · exact ⟨he, hnew.2 hm⟩
      case ret o r => exact absurd hnew (by simp [New11c])
      case cdrop o => exact absurd hnew (by simp [New11c])
  · have hedge' : l.isOpEdge = false := by simpa using hedge
    rcases keep02c_cases hs hedge' with hk | ⟨hops, hc, -⟩ | ⟨hq, -⟩
    · rcases step_qms11c hs x hx with hold | hnew
      · exact own02c_step (hi.que x hold) hs hg (.inr hk)
      · exact own02c_new hnew h11.seen hs hg hedge'
    · -- the open callback is over abnormally: its own reply slot is cancelled; `x` is still waiting
      rw [hc] at hx
      obtain ⟨h1, h2⟩ := hi.que x hx
      refine ⟨wf_seenM_mono g l _ h1, ?_⟩
      intro rec' hrec' hm
      rw [hops] at hrec'
      obtain ⟨r, hr, rfl⟩ := List.mem_map.mp hrec'
      rw [resolve_kind] at hm
      obtain ⟨he, hsl⟩ := h2 r hr hm
      obtain ⟨σ1, h01⟩ := h11.c01
      have hn : s.curSlot.contains r.o = false := by
        cases hin : s.curSlot.contains r.o
        · rfl
        · exact (cur_not_queued02c h01 hi.slotcb hr (by simpa using hin) hm (qms_qmsgs02c hx)).elim
      exact ⟨resolve_err02c he (.inr hn), by rw [resolve_o]; exact hsl⟩
    · simp [qms11c, hq] at hx

theorem cls02c_keep {s s' : AState} {D : List Nat}
    (hi : ∀ rec ∈ s.ops, ∀ m, callMsg11c rec.kind = some m → m ∈ D → okSt02c rec.st = true)
    (hm : OpsMap s s') :
    ∀ rec ∈ s'.ops, ∀ m, callMsg11c rec.kind = some m → m ∈ D → okSt02c rec.st = true := by
  obtain ⟨f, hf, pf⟩ := hm
  intro rec' hrec' m hk hin
  rw [hf] at hrec'
  obtain ⟨r, hr, rfl⟩ := List.mem_map.mp hrec'
  rw [pf.kind] at hk
  have he := hi r hr m hk hin
  rw [pf.keep r (okSt02c_not_pending he)]; exact he

theorem cls02c_step {w s l s'} {σ : C02cSt} {g : Wf01St} (hi : Inv02c s σ g) (hs : step w s l = some s')
    (hg : wfBad g l = false) :
    ∀ rec ∈ s'.ops, ∀ m, callMsg11c rec.kind = some m → m ∈ (next02c σ l).done → okSt02c rec.st = true := by
  by_cases hend : ∃ m0, l = .cbEnd (.handle m0) true
  · obtain ⟨m0, rfl⟩ := hend
    obtain ⟨slot, dl, hp, hops⟩ := stepCbEnd_handle02c hs
    intro rec' hrec' m hk hin
    simp only [next02c] at hin
    rw [hops] at hrec'
    cases slot with
    | none =>
      simp only [answer] at hrec'
      rcases List.mem_cons.mp hin with rfl | hin
      · have := ((hi.cur m none dl hp).2 rec' hrec' hk).2
        simp at this
      · exact hi.cls rec' hrec' m hk hin
    | some o =>
      rw [answer_some_ops] at hrec'
      obtain ⟨r, hr, rfl⟩ := List.mem_map.mp hrec'
      rw [resolve_kind] at hk
      rcases List.mem_cons.mp hin with rfl | hin
      · obtain ⟨he, hsl⟩ := (hi.cur m (some o) dl hp).2 r hr hk
        simp at hsl; subst hsl
        exact answered_ok02c _ he
      · have he := hi.cls r hr m hk hin
        rw [resolve_keep _ _ (okSt02c_not_pending he)]; exact he
  · rw [next02c_done (fun m0 he => hend ⟨m0, he⟩)]
    by_cases hedge : l.isOpEdge = true
    · intro rec' hrec' m hk hin
      rcases edge_ops hs hedge rec' hrec' with ⟨hrec, -⟩ | ⟨o, h, k, st, rfl, -, rfl, -⟩
      · exact hi.cls rec' hrec m hk hin
      · exact absurd (hi.dseen m hin) (begin_fresh hg (callMsg11c_msg hk))
    · exact cls02c_keep hi.cls (step_ops hs (by simpa using hedge))

theorem bad02c_step {s s' : AState} {σ : C02cSt} {g : Wf01St} {l : Label} {w : Wiring} (hi : Inv02c s σ g)
    (hs : step w s l = some s') : bad02c σ l = false := by
  cases l <;> first | rfl | skip
  case ret o r =>
    obtain ⟨rec, hfind, hexp, -, hro⟩ := stepRet_ops hs
    obtain ⟨hrec, _⟩ := findOp_some_mem hfind
    obtain ⟨σ', h11, heq⟩ := hi.base
    have htbl := h11.tbl rec hrec
    rw [hro, heq] at htbl
    simp only [bad02c, htbl]
    cases hk : callMsg11c rec.kind with
    | none => rfl
    | some m =>
      simp only
      by_cases hin : m ∈ σ.done
      · have := retExpect_ok02c hk (hi.cls rec hrec m hk hin) hexp
        simp [this]
      · simp [hin]

theorem c02c_step (w : Wiring) {s s' : AState} {σ : C02cSt} {g : Wf01St} {l : Label} (hi : Inv02c s σ g)
    (hs : step w s l = some s') (hg : wfBad g l = false) :
    bad02c σ l = false ∧ Inv02c s' (next02c σ l) (wfNext g l) := by
  refine ⟨bad02c_step hi hs, ?_⟩
  obtain ⟨σ', h11, heq⟩ := hi.base
  exact ⟨⟨_, (c11c_step w h11 hs hg).2, next02c_calls l heq⟩, slotCb_step hs hi.slotcb, dseen02c_step hi hs,
    cur02c_step hi hs hg, que02c_step hi hs hg, cls02c_step hi hs hg⟩

theorem c02c_init (c : MonCtx) : Inv02c (AState.init c.cfg c.h0 c.k0) monC02c.init monWf01.init := by
  refine ⟨⟨_, c11c_init c, rfl⟩, rfl, ?_, ?_, ?_, ?_⟩ <;>
    simp [monC02c, monWf01, AState.init, qms11c, Chan.init]

/-- **C02c (a call whose own message was handled to completion does not return an error).**  In every run of
    the actor model — every wiring, both mailbox kinds, every handle kind, timeouts, restarts, stop requests
    from anywhere, every termination cause — whose trace never re-uses a message number or an operation id
    (`wf01`): once the handler invocation of message `m` has ended normally (`cbEnd (handle m) true`), the
    `call` / `Caller::call` / `try_call` operation that submitted `m` does not return an error. -/
theorem C02c_holds (w : Wiring) (c : MonCtx) (ls : List Label) (s : AState)
    (hr : run w (AState.init c.cfg c.h0 c.k0) ls = some s) (hwf : wf01 ls = true) : monC02c.ok ls = true :=
  ok_of_run_lift_wf monC02c monWf01 w Inv02c
    (fun s s' σ g g' l hi hs hg => by
      obtain ⟨hb, rfl⟩ := monWf01_step hg
      obtain ⟨hbad, hi'⟩ := c02c_step w hi hs hb
      exact ⟨_, by rw [monC02c_step, hbad]; rfl, hi'⟩)
    _ (c02c_init c) ls s hr hwf

/-! ### non-vacuity (monitor only; the runs of `Wiring.current` are in `Props/C02CCurrent.lean`) -/

def c02cCfg : Cfg := { cap := none, strat := .only, timeout := none, failOnTimeout := false, stream := false }
def c02cCtx : MonCtx := { cfg := c02cCfg, h0 := 0, k0 := .addr, prompt := true }

/-- two calls; another handle asks the actor to stop while the first call is being handled and the message of
    the second is waiting; both are handled to completion and both callers get their reply; then the actor
    stops -/
def c02cExample : List Label :=
  [ .cbBegin .started, .cbEnd .started true, .mk 0 1 .addr, .begin 0 0 (.call 1), .begin 1 0 (.call 2),
    .cbBegin (.handle 1), .stopReq 1 true, .cbEnd (.handle 1) true,
    .ret 0 (.okReply { m := 1, birth := 0, digest := [1] }), .cbBegin (.handle 2), .cbEnd (.handle 2) true,
    .ret 1 (.okReply { m := 2, birth := 0, digest := [1, 2] }), .tDeq, .cbBegin .stopped, .cbEnd .stopped true,
    .taskDone ]

example : monC02c.ok c02cExample = true := by decide
example : wf01 c02cExample = true := by decide

/-- bad: the message of the second call was handled to completion, yet its caller is told `already_stopped` -/
def c02cBad : List Label := c02cExample.take 11 ++ [ .ret 1 (.err .alreadyStopped) ]
example : monC02c.ok c02cBad = false := by decide
example : wf01 c02cBad = true := by decide
/-- bad: a `Caller::call` whose message was handled to completion returns `canceled` after the actor failed -/
example : monC02c.ok [ .cbBegin .started, .cbEnd .started true, .mk 0 1 .caller, .begin 0 1 (.callw 1),
    .cbBegin (.handle 1), .cbEnd (.handle 1) true, .cancel, .ret 0 (.err .canceled) ] = false := by decide
/-- fine: the invocation did not end normally (it panicked): the caller's error is no violation -/
example : monC02c.ok [ .cbBegin .started, .cbEnd .started true, .begin 0 0 (.call 1), .cbBegin (.handle 1),
    .cbPanic (.handle 1), .ret 0 (.err .canceled) ] = true := by decide
/-- fine: a `send` is not a call -/
example : monC02c.ok [ .cbBegin .started, .cbEnd .started true, .begin 0 0 (.send 1), .cbBegin (.handle 1),
    .cbEnd (.handle 1) true, .ret 0 (.err .send) ] = true := by decide

end Hannibal
