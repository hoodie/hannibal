import Hannibal.Proofs.C01Mon
import Hannibal.Proofs.C01Phase
import Hannibal.Proofs.C01Spec
import Hannibal.Proofs.C01Queue
import Hannibal.Proofs.OpsClean
import Hannibal.Proofs.Run
/-
  C01 (the mailbox is FIFO: sequential, in order, at most once; the state is the fold): every run of the
  actor model whose labels use fresh message numbers and fresh operation ids is accepted by `monC01`.
-/
namespace Hannibal
open AState

theorem wf_seenM_mono (g : Wf01St) (l : Label) : ∀ m ∈ g.seenM, m ∈ (wfNext g l).seenM := by
  intro m hm
  cases l <;> try exact hm
  case begin o h k => simp only [wfNext]; cases k.msg? <;> simp [hm]
  case fire t mo => cases mo <;> simp [wfNext, hm]
  case tickBegin t m' | extBegin b m' => simp [wfNext, hm]

def Live (c : Chan) (handled : List Nat) (m : Nat) : Prop := m ∈ handled ∨ m ∈ qmsgs c ∨ c.rx = false

def QC (c : Chan) (σ : C01St) (g : Wf01St) : Prop :=
  QInv (qmsgs c) c.rx σ.handled σ.before σ.completed g.seenM

theorem handled_mono (h : List Nat) (l : Label) : ∀ m ∈ h, m ∈ handledNext h l := by
  intro m hm
  cases l <;> try exact hm
  rename_i cb; cases cb <;> first | exact hm | exact List.mem_cons_of_mem _ hm

theorem handledNext_of_not_handle {h : List Nat} {l : Label} (hl : ∀ m, l ≠ .cbBegin (.handle m)) :
    handledNext h l = h := by
  cases l <;> try rfl
  rename_i cb; cases cb <;> first | rfl | exact absurd rfl (hl _)

theorem handledNext_of_not_cbBegin {h : List Nat} {l : Label} (hl : ∀ cb, l ≠ .cbBegin cb) :
    handledNext h l = h :=
  handledNext_of_not_handle fun _ => hl _

theorem live_step {l : Label} {c c' : Chan} {h : List Nat} {m : Nat} (hq : QRel l c c') (hl : Live c h m) :
    Live c' (handledNext h l) m := by
  unfold Live at *
  rcases hq.shape with ⟨m0, rfl, hq1, hq2⟩ | ⟨hne, hq⟩
  · rw [hq1] at hl; rw [hq2]
    simp only [handledNext, List.mem_cons] at hl ⊢
    rcases hl with hl | (rfl | hl) | hl
    · exact .inl (.inr hl)
    · exact .inl (.inl rfl)
    · exact .inr (.inl hl)
    · exact .inr (.inr hl)
  · rw [handledNext_of_not_handle hne]
    rcases hq with ⟨h1, h2⟩ | ⟨m', h1, h2, h3⟩ | ⟨m', h1, h2⟩ | ⟨-, h2⟩
    · rw [h1, h2]; exact hl
    · rw [h1, h3]
      rcases hl with hl | hl | hl
      · exact .inl hl
      · exact .inr (.inl (List.mem_append_left _ hl))
      · rw [h2] at hl; cases hl
    · rw [h1, h2]; exact hl.imp_right (.imp_left (List.mem_cons_of_mem _))
    · exact .inr (.inr h2)

theorem qc_step {l : Label} {c c' : Chan} {σ : C01St} {g : Wf01St} (hi : QC c σ g) (hq : QRel l c c')
    (hg : wfBad g l = false)
    (hnew : ∀ o r m ic, l = .ret o r → lookup o σ.ops = some (m, ic) → doneRet ic r = true →
      Live c σ.handled m) :
    badTwice σ l = false ∧ badOrder σ l = false ∧ QC c' (next01 σ l) (wfNext g l) := by
  unfold QC at *
  cases l
  case begin o h k =>
    simp only [QRel] at hq
    simp only [badTwice, badOrder, next01, handledNext, beforeNext, completedNext, wfNext, true_and]
    simp only [wfBad, Bool.or_eq_false_iff] at hg
    cases hk : k.msg? with
    | none =>
      simp only [hk] at hq ⊢
      rcases hq with ⟨hq1, hq2⟩ | ⟨m', hm', _⟩
      · rw [hq1, hq2]; exact hi
      · cases hm'
    | some m =>
      simp only [hk] at hq hg ⊢
      have hm : m ∉ g.seenM := by simpa using hg.2
      rcases hq with ⟨hq1, hq2⟩ | ⟨m', hm', hq1, hq2, hq3⟩
      · rw [hq1, hq2]; exact qinv_begin_refused hi hm _
      · cases hm'
        rw [hq1, hq3]
        rw [hq2] at hi
        exact qinv_push_op hi hm
  case fire t mo =>
    refine ⟨rfl, rfl, ?_⟩
    cases mo with
    | none =>
      rcases hq with ⟨hq1, hq2⟩ | ⟨m', hm', _⟩
      · rw [hq1, hq2]; exact hi
      · cases hm'
    | some m =>
      have hm : m ∉ g.seenM := by simpa [wfBad] using hg
      rcases hq with ⟨hq1, hq2⟩ | ⟨m', hm', hq1, hq2, hq3⟩
      · rw [hq1, hq2]; exact qinv_seen hi m
      · cases hm'
        rw [hq1, hq3, ← hq2]
        exact qinv_push_plain hi hm
  case tickBegin t m | extBegin t m =>
    have hm : m ∉ g.seenM := by simpa [wfBad] using hg
    refine ⟨rfl, rfl, ?_⟩
    rw [hq.1, hq.2]
    exact qinv_cons hi hm
  case cbBegin cb =>
    cases cb
    case handle m =>
      obtain ⟨hq1, hq2⟩ := hq
      rw [hq1] at hi
      obtain ⟨h2, h3⟩ := qinv_head hi
      refine ⟨by simpa [badTwice] using h2, ?_, ?_⟩
      · simp only [badOrder, Bool.not_eq_false', List.all_eq_true]
        intro x hx; simpa using h3 x hx
      · rw [hq2]; exact qinv_pop hi
    all_goals exact ⟨rfl, rfl, by rw [hq.1, hq.2]; exact hi⟩
  case ret o r =>
    refine ⟨rfl, rfl, ?_⟩
    rw [hq.1, hq.2]
    simp only [next01, completedNext]
    cases hl : lookup o σ.ops with
    | none => exact hi
    | some p =>
      obtain ⟨m, ic⟩ := p
      simp only
      by_cases hd : doneRet ic r = true
      · rw [if_pos hd]
        exact qinv_complete hi (hnew o r m ic rfl hl hd)
      · rw [if_neg hd]; exact hi
  case cancel | taskDone | taskPanic => exact ⟨rfl, rfl, by rw [hq.1, hq.2]; exact qinv_wipe hi⟩
  all_goals exact ⟨rfl, rfl, by rw [hq.1, hq.2]; exact hi⟩

def opEntry (k : OpKind) : Option (Nat × Bool) := k.msg?.map (fun m => (m, k.isCall))

structure OpsC (s : AState) (σ : C01St) (g : Wf01St) : Prop where
  tbl : ∀ rec ∈ s.ops, lookup rec.o σ.ops = opEntry rec.kind
  fresh : ∀ o, o ∉ g.seenO → lookup o σ.ops = none

theorem OpsC.msg {s σ g} (h : OpsC s σ g) {rec : OpRec} (hrec : rec ∈ s.ops) {m : Nat} {ic : Bool}
    (hl : lookup rec.o σ.ops = some (m, ic)) : rec.kind.msg? = some m := by
  have htbl := h.tbl rec hrec
  rw [hl, opEntry] at htbl
  cases hk : rec.kind.msg? <;> simp [hk] at htbl
  rw [htbl.1]

theorem opsNext_of_not_begin {ops : List (Nat × (Nat × Bool))} {l : Label} (h : ∀ o h k, l ≠ .begin o h k) :
    opsNext ops l = ops := by
  cases l <;> first | rfl | exact absurd rfl (h _ _ _)

theorem lookup_opsNext_begin (ops : List (Nat × (Nat × Bool))) (o h : Nat) (k : OpKind) (o' : Nat) :
    lookup o' (opsNext ops (.begin o h k)) = if o = o' then (opEntry k).or (lookup o' ops) else lookup o' ops := by
  simp only [opsNext, opEntry]
  cases k.msg? with
  | none => simp
  | some m => by_cases ho : o = o' <;> simp [lookup, ho]

theorem wfNext_seenO_of_not_begin {g : Wf01St} {l : Label} (h : ∀ o h k, l ≠ .begin o h k) :
    (wfNext g l).seenO = g.seenO := by
  cases l <;> simp only [wfNext]
  · exact absurd rfl (h _ _ _)
  · rename_i t mo; cases mo <;> rfl

theorem wfBad_begin {g : Wf01St} {o h : Nat} {k : OpKind} (hg : wfBad g (.begin o h k) = false) : o ∉ g.seenO := by
  simp only [wfBad, Bool.or_eq_false_iff] at hg; simpa using hg.1

theorem opsC_step {w s l s'} {σ : C01St} {g : Wf01St} (hi : OpsC s σ g) (hs : step w s l = some s')
    (hg : wfBad g l = false) : OpsC s' (next01 σ l) (wfNext g l) := by
  by_cases hb : ∃ o h k, l = .begin o h k
  · obtain ⟨o, h, k, rfl⟩ := hb
    obtain ⟨hfresh, st, hops, -⟩ := stepBegin_ops hs
    have ho := wfBad_begin hg
    refine ⟨fun rec hrec => ?_, fun o' ho' => ?_⟩ <;> simp only [next01, lookup_opsNext_begin]
    · rw [hops] at hrec
      rcases List.mem_append.mp hrec with hrec | hrec
      · rw [if_neg (fun he => findOp_none_ne hfresh rec hrec he.symm)]; exact hi.tbl rec hrec
      · simp at hrec; subst hrec
        simp [hi.fresh o ho]
    · simp only [wfNext, List.mem_cons, not_or] at ho'
      rw [if_neg (Ne.symm ho'.1)]; exact hi.fresh o' ho'.2
  · have hnb : ∀ o h k, l ≠ .begin o h k := fun o h k he => hb ⟨o, h, k, he⟩
    have h1 : (next01 σ l).ops = σ.ops := opsNext_of_not_begin hnb
    refine ⟨fun rec hrec => ?_, fun o ho => ?_⟩
    · obtain ⟨r, hr, ho, hk, _⟩ := mem_ops_step hs hnb hrec
      rw [h1, ho, hk]; exact hi.tbl r hr
    · rw [wfNext_seenO_of_not_begin hnb] at ho
      rw [h1]; exact hi.fresh o ho

def OpLive (s : AState) (handled : List Nat) : Prop :=
  ∀ rec ∈ s.ops, ∀ m, rec.kind.msg? = some m → (∃ e, rec.st = .failed e) ∨ Live s.chan handled m

theorem opLive_step {w s l s'} {handled : List Nat} (hi : OpLive s handled) (hs : step w s l = some s') :
    OpLive s' (handledNext handled l) := by
  have hq := step_q hs
  intro rec hrec m hm
  by_cases hb : ∃ o h k, l = .begin o h k
  · obtain ⟨o, h, k, rfl⟩ := hb
    obtain ⟨st, hops, hc⟩ := stepBegin_spec hs
    rw [hops] at hrec
    rcases List.mem_append.mp hrec with hrec | hrec
    · exact (hi rec hrec m hm).imp_right (live_step hq)
    · simp at hrec; subst hrec
      rcases hc with ⟨_, hk | hf⟩ | ⟨hrx, tok, hc, hk⟩
      · rw [hk] at hm; cases hm
      · exact .inl hf
      · right; right; left
        rw [hc, qmsgs_enq]
        simp [msgNo_payloadOf o k hk, show k.msg? = some m from hm]
  · obtain ⟨r, hr, ho, hk, hst⟩ := mem_ops_step hs (fun o h k he => hb ⟨o, h, k, he⟩) hrec
    rw [hk] at hm
    rcases hi r hr m hm with ⟨e, hf⟩ | hl
    · rcases hst with rfl | ⟨hp, _⟩
      · exact .inl ⟨e, hf⟩
      · rw [hf] at hp; cases hp
    · exact .inr (live_step hq hl)

theorem doneRet_err (ic : Bool) (e : ErrKind) (he : e = .alreadyStopped ∨ e = .send) :
    doneRet ic (.err e) = false := by
  rcases he with rfl | rfl <;> cases ic <;> rfl

theorem retExpect_failed {s : AState} {rec : OpRec} {e : ErrKind} {r : Res} (hst : rec.st = .failed e)
    (h : s.retExpect rec = some r) : r = .err e := by
  unfold retExpect at h; simp [hst] at h; exact h.symm

theorem ret_live {s s' : AState} {σ : C01St} {g : Wf01St} {o : Nat} {r : Res} (hops : OpsC s σ g)
    (hlive : OpLive s σ.handled) (hclean : OpsClean s) (hs : s.stepRet o r = some s')
    {m : Nat} {ic : Bool} (hl : lookup o σ.ops = some (m, ic)) (hd : doneRet ic r = true) :
    Live s.chan σ.handled m := by
  obtain ⟨rec, hfind, hexp, -⟩ := stepRet_cases hs
  obtain ⟨hrec, rfl⟩ := findOp_some_mem hfind
  rcases hlive rec hrec m (hops.msg hrec hl) with ⟨e, hf⟩ | h
  · obtain rfl := retExpect_failed hf hexp
    rw [doneRet_err ic e (hclean rec hrec e hf)] at hd
    cases hd
  · exact h

theorem ret_value {s s' : AState} {σ : C01St} {o : Nat} {r : Res} (hlog : Log01 s σ.hlog)
    (hs : s.stepRet o r = some s') : badValue σ (.ret o r) = false := by
  cases r <;> simp only [badValue]
  rename_i f
  cases hl : lookup o σ.ops <;> simp only
  obtain ⟨rec, -, hexp, -⟩ := stepRet_cases hs
  have := hlog.res
  cases retExpect_row hexp with | joined _ _ _ _ hr =>
  rw [hr] at this
  simpa [resOk, hlog.log] using this

theorem wf_seenO_mono (g : Wf01St) (l : Label) : ∀ o ∈ g.seenO, o ∈ (wfNext g l).seenO := by
  intro o ho
  cases l <;> try exact ho
  case begin o' h k => exact List.mem_cons_of_mem _ ho
  case fire t mo => cases mo <;> exact ho

theorem digestNext_of_not_cbEnd {σ : C01St} {l : Label} (hl : ∀ m ok, l ≠ .cbEnd (.handle m) ok) :
    digestNext σ l = σ.digestAt := by
  cases l <;> try rfl
  rename_i cb ok
  cases cb <;> first | rfl | exact absurd rfl (hl _ _)

def SlotOk (s : AState) (g : Wf01St) (m o : Nat) : Prop :=
  o ∈ g.seenO ∧ ∀ rec ∈ s.ops, rec.o = o → rec.kind.msg? = some m

theorem slotOk_step {w s l s'} {g : Wf01St} {m o : Nat} (hi : SlotOk s g m o) (hs : step w s l = some s')
    (hg : wfBad g l = false) : SlotOk s' (wfNext g l) m o := by
  refine ⟨wf_seenO_mono g l o hi.1, fun rec hrec hro => ?_⟩
  by_cases hb : ∃ o h k, l = .begin o h k
  · obtain ⟨o2, h, k, rfl⟩ := hb
    obtain ⟨-, st, hops, -⟩ := stepBegin_ops hs
    rw [hops] at hrec
    rcases List.mem_append.mp hrec with hrec | hrec
    · exact hi.2 rec hrec hro
    · simp at hrec; subst hrec
      exact absurd hi.1 (hro ▸ wfBad_begin hg)
  · obtain ⟨r, hr, ho, hk, _⟩ := mem_ops_step hs (fun o h k he => hb ⟨o, h, k, he⟩) hrec
    rw [hk]; exact hi.2 r hr (ho ▸ hro)

structure Ans (s : AState) (σ : C01St) (g : Wf01St) : Prop where
  qslot : ∀ m o, (m, o) ∈ qslots s.chan → SlotOk s g m o
  cur : ∀ m slot dl, s.phase = .handling (.handle m) slot dl →
    m ∈ σ.handled ∧ lookup m σ.digestAt = none ∧ ∀ o, slot = some o → SlotOk s g m o
  dkeys : ∀ m, m ∉ σ.handled → lookup m σ.digestAt = none
  ans : ∀ rec ∈ s.ops, ∀ rep, rec.st = .answered rep → ∀ m, rec.kind.msg? = some m →
    rep.m = m ∧ lookup m σ.digestAt = some rep.digest

theorem ans_step {w s l s'} {σ : C01St} {g : Wf01St} (hi : Ans s σ g) (hs : step w s l = some s')
    (hg : wfBad g l = false) (hlog : σ.hlog = s.log) (htw : badTwice σ l = false) :
    Ans s' (next01 σ l) (wfNext g l) := by
  have hsl := step_slots hs
  -- the digest table grows only at the end of the open handler invocation, whose message is handled and
  -- has no entry yet
  have hcbend : ∀ m0 ok, l = .cbEnd (.handle m0) ok →
      (∃ slot dl, s.phase = .handling (.handle m0) slot dl) ∧ s'.phase = .idle := by
    intro m0 ok he; subst he
    cases step_loop hs rfl with | handled m slot dl hw hp => exact ⟨⟨slot, dl, hp⟩, rfl⟩
  have hdig : ∀ m, (∀ m0 ok, l = .cbEnd (.handle m0) ok → m ≠ m0) →
      lookup m (digestNext σ l) = lookup m σ.digestAt := by
    intro m hne
    by_cases hl : ∃ m0 ok, l = .cbEnd (.handle m0) ok
    · obtain ⟨m0, ok, rfl⟩ := hl
      exact lookup_cons_ne (fun he => hne m0 ok rfl he.symm)
    · rw [digestNext_of_not_cbEnd (fun m0 ok he => hl ⟨m0, ok, he⟩)]
  refine ⟨fun m o hmo => ?_, fun m slot dl hp => ?_, fun m hm => ?_, fun rec hrec rep hst m hm => ?_⟩
  · by_cases hb : ∃ o2 h k, l = .begin o2 h k
    · obtain ⟨o2, h, k, rfl⟩ := hb
      have hold : (m, o) ∈ qslots s.chan → SlotOk s' (wfNext g (.begin o2 h k)) m o :=
        fun hin => slotOk_step (hi.qslot m o hin) hs hg
      rcases hsl with hsl | ⟨m2, hm2, hsl⟩ <;> rw [hsl] at hmo
      · exact hold hmo
      · rcases List.mem_append.mp hmo with hmo | hmo
        · exact hold hmo
        · simp at hmo
          obtain ⟨rfl, rfl⟩ := hmo
          obtain ⟨hfresh, st, hops, -⟩ := stepBegin_ops hs
          refine ⟨by simp [wfNext], fun rec hrec hro => ?_⟩
          rw [hops] at hrec
          rcases List.mem_append.mp hrec with hrec | hrec
          · exact absurd hro (findOp_none_ne hfresh rec hrec)
          · simp at hrec; subst hrec; exact hm2
    · have hsub : ∀ x ∈ qslots s'.chan, x ∈ qslots s.chan := by
        cases l <;> first | exact hsl | exact absurd ⟨_, _, _, rfl⟩ hb
      exact slotOk_step (hi.qslot m o (hsub _ hmo)) hs hg
  · by_cases hb : ∃ cb, l = .cbBegin cb
    · obtain ⟨cb, rfl⟩ := hb
      obtain ⟨rfl, tok, rest, hq⟩ := (stepCbBegin_handling hs).2 m slot dl hp
      have hnh : m ∉ σ.handled := by simpa [badTwice] using htw
      refine ⟨by simp [next01, handledNext], hi.dkeys m hnh, ?_⟩
      rintro o rfl
      refine slotOk_step (hi.qslot m o ?_) hs hg
      simp [qslots, hq, slotNo]
    · have hp0 := step_handling_same w hs (fun cb he => hb ⟨cb, he⟩) hp
      obtain ⟨h1, h2, h3⟩ := hi.cur m slot dl hp0
      refine ⟨handled_mono _ _ m h1, ?_, fun o ho => slotOk_step (h3 o ho) hs hg⟩
      rw [← h2]
      refine hdig m fun m0 ok he => ?_
      rw [(hcbend m0 ok he).2] at hp; cases hp
  · have hm0 : m ∉ σ.handled := fun hh => hm (handled_mono _ _ m hh)
    rw [← hi.dkeys m hm0]
    refine hdig m fun m0 ok he hmm => ?_
    obtain ⟨⟨slot, dl, hp⟩, _⟩ := hcbend m0 ok he
    exact hm0 (hmm ▸ (hi.cur m0 slot dl hp).1)
  · by_cases hb : ∃ o h k, l = .begin o h k
    · obtain ⟨o2, h, k, rfl⟩ := hb
      obtain ⟨-, st, hops, hout, -⟩ := stepBegin_ops hs
      rw [hops] at hrec
      rcases List.mem_append.mp hrec with hrec | hrec
      · exact hi.ans rec hrec rep hst m hm
      · simp at hrec; subst hrec
        rcases hout.st_cases with h | h | h | h | ⟨h, -⟩ <;> rw [h] at hst <;> cases hst
    · obtain ⟨r, hr, ho, hk, hupd⟩ := mem_ops_step hs (fun o h k he => hb ⟨o, h, k, he⟩) hrec
      rw [hk] at hm
      rcases hupd with rfl | ⟨hpend, hupd⟩
      · -- an answered record keeps its entry: the handler that ends now is that of another message
        obtain ⟨h1, h2⟩ := hi.ans rec hr rep hst m hm
        refine ⟨h1, ?_⟩
        rw [← h2]
        refine hdig m fun m0 ok he hmm => ?_
        obtain ⟨⟨slot, dl, hp⟩, _⟩ := hcbend m0 ok he
        rw [hmm, (hi.cur m0 slot dl hp).2.1] at h2; cases h2
      · rw [hst] at hupd
        rcases hupd with hupd | hupd | ⟨m0, dl, rfl, hp, hrep⟩
        · cases hupd
        · cases hupd
        · cases hrep
          have := ((hi.cur m0 (some r.o) dl hp).2.2 r.o rfl).2 r hr rfl
          rw [hm] at this
          cases this
          refine ⟨rfl, ?_⟩
          simp only [next01, digestNext]
          rw [lookup_cons_eq, hlog]

theorem ret_reply {s s' : AState} {σ : C01St} {g : Wf01St} {o : Nat} {r : Res} (hops : OpsC s σ g)
    (hans : Ans s σ g) (hs : s.stepRet o r = some s') : badReply σ (.ret o r) = false := by
  cases r <;> simp only [badReply]
  rename_i rep
  cases hl : lookup o σ.ops with
  | none => rfl
  | some p =>
    obtain ⟨m, ic⟩ := p
    obtain ⟨rec, hfind, hexp, -⟩ := stepRet_cases hs
    obtain ⟨hrec, rfl⟩ := findOp_some_mem hfind
    cases retExpect_row hexp with | answered _ hst =>
    obtain ⟨h1, h2⟩ := hans.ans rec hrec rep hst m (hops.msg hrec hl)
    simp [h1, h2]

structure C01Inv (s : AState) (σ : C01St) (g : Wf01St) : Prop where
  opn : σ.openCb = true → cbOrDone s.phase = true
  log : Log01 s σ.hlog
  qc : QC s.chan σ g
  ops : OpsC s σ g
  live : OpLive s σ.handled
  clean : OpsClean s
  ans : Ans s σ g

theorem c01_step (w : Wiring) {s s' : AState} {σ : C01St} {g : Wf01St} {l : Label} (hi : C01Inv s σ g)
    (hs : step w s l = some s') (hg : wfBad g l = false) :
    bad01 σ l = false ∧ C01Inv s' (next01 σ l) (wfNext g l) := by
  obtain ⟨hopen, hopen'⟩ := open_step w hi.opn hs
  obtain ⟨htw, hord, hqc'⟩ := qc_step hi.qc (step_q hs) hg (by
    rintro o r m ic rfl hlk hd
    exact ret_live hi.ops hi.live hi.clean hs hlk hd)
  have hrep : badReply σ l = false := by
    cases l <;> first | rfl | exact ret_reply hi.ops hi.ans hs
  have hval : badValue σ l = false := by
    cases l <;> first | rfl | exact ret_value hi.log hs
  refine ⟨by simp [bad01, hopen, htw, hord, hrep, hval], ?_⟩
  exact ⟨hopen', log01_step w hi.log hs, hqc', opsC_step hi.ops hs hg, opLive_step hi.live hs,
    opsClean_step hs hi.clean, ans_step hi.ans hs hg hi.log.log htw⟩

theorem c01_init (c : MonCtx) : C01Inv (AState.init c.cfg c.h0 c.k0) (monC01 c).init monWf01.init := by
  refine ⟨nofun, ⟨rfl, rfl, nofun, fun _ => rfl⟩, qinv_init, ⟨?_, fun _ _ => rfl⟩, ?_, opsClean_init _ _ _,
    ⟨?_, ?_, fun _ _ => rfl, ?_⟩⟩
  · exact fun _ h => nomatch h
  · exact fun _ h => nomatch h
  · exact fun _ _ h => nomatch h
  · exact fun _ _ _ h => nomatch h
  · exact fun _ h => nomatch h

/-- **C01 (the mailbox is FIFO: sequential, in order, at most once; the state is the fold).**
    In every run of the actor model — every wiring, both mailbox kinds, every handle kind, waiting and
    forcing path, timers, restarts, every termination cause — whose trace never re-uses a message number
    or an operation id (`wf01`): handler invocations never overlap; a message is handled at most once;
    when the handler of `m` begins, every message whose submission had completed before the submission
    of `m` began has been handled; a reply is the one of its own message and carries the fold of what
    had been handled when its handler finished; a joined value carries the fold of everything handled. -/
theorem C01_holds (w : Wiring) (c : MonCtx) (ls : List Label) (s : AState)
    (hr : run w (AState.init c.cfg c.h0 c.k0) ls = some s) (hwf : wf01 ls = true) :
    (monC01 c).ok ls = true := by
  refine ok_of_run_lift_wf (monC01 c) monWf01 w C01Inv ?_ _ (c01_init c) ls s hr hwf
  intro s s' σ g g' l hi hs hg
  obtain ⟨hb, rfl⟩ := monWf01_step hg
  obtain ⟨hbad, hi'⟩ := c01_step w hi hs hb
  exact ⟨_, by rw [monC01_step, hbad]; rfl, hi'⟩

/-- bounded mailbox (capacity 1): a send, a call and a (parked) send through a second handle are handled
    in submission order; the reply carries the fold after its handler; the joined value the whole fold -/
def c01Cfg : Cfg := { cap := some 1, strat := .only, timeout := none, failOnTimeout := false, stream := false }
def c01Ctx : MonCtx := { cfg := c01Cfg, h0 := 0, k0 := .owning, prompt := true }
def c01Example : List Label :=
  [ .cbBegin .started, .cbEnd .started true,
    .begin 0 0 (.send 1), .ret 0 .ok,
    .begin 1 0 (.call 2),
    .mk 0 1 .addr,
    .begin 2 1 (.send 3),
    .cbBegin (.handle 1), .cbEnd (.handle 1) true,
    .cbBegin (.handle 2), .ret 2 .ok, .cbEnd (.handle 2) true,
    .ret 1 (.okReply { m := 2, birth := 0, digest := [1, 2] }),
    .cbBegin (.handle 3), .cbEnd (.handle 3) true,
    .stopReq 1 true, .tDeq, .cbBegin .stopped, .cbEnd .stopped true, .taskDone,
    .begin 3 0 .join, .ret 3 (.some { birth := 0, stoppedSeen := true, digest := [1, 2, 3] }) ]

example : (monC01 c01Ctx).ok c01Example = true := by decide
/-- the well-formedness hypothesis is satisfiable (by the same trace) -/
example : wf01 c01Example = true := by decide

/-- (1) overlap: a second handler begins while the first is open -/
example : (monC01 c01Ctx).ok [ .cbBegin .started, .cbEnd .started true, .begin 0 0 (.send 1), .begin 1 0 (.send 2),
    .cbBegin (.handle 1), .cbBegin (.handle 2) ] = false := by decide
/-- (2) a message handled twice -/
example : (monC01 c01Ctx).ok [ .cbBegin .started, .cbEnd .started true, .begin 0 0 (.send 1),
    .cbBegin (.handle 1), .cbEnd (.handle 1) true, .cbBegin (.handle 1) ] = false := by decide
/-- (3) overtaking: 1 was submitted completely (through the waiting path) before 3 was submitted (through
    another handle), yet 3 is handled first -/
example : (monC01 c01Ctx).ok [ .cbBegin .started, .cbEnd .started true, .begin 0 0 (.send 1), .ret 0 .ok,
    .mk 0 1 .addr, .begin 2 1 (.send 3), .cbBegin (.handle 3) ] = false := by decide
/-- (3) loss: 3 is handled without 1 ever being handled -/
example : (monC01 c01Ctx).ok (c01Example.take 7 ++ [ .cbBegin (.handle 3) ]) = false := by decide
/-- (4) a reply carrying the fold of the wrong moment -/
example : (monC01 c01Ctx).ok (c01Example.take 12 ++
    [ .ret 1 (.okReply { m := 2, birth := 0, digest := [1] }) ]) = false := by decide
/-- (5) a joined value that is not the fold of what was handled -/
example : (monC01 c01Ctx).ok (c01Example.take 21 ++
    [ .ret 3 (.some { birth := 0, stoppedSeen := true, digest := [1, 3, 2] }) ]) = false := by decide

end Hannibal
