import Hannibal.Proofs.Step
import Hannibal.Proofs.Run
import Hannibal.Monitor.C13
/-
  C13 (order / never abandoned / finished-then-stopped once): every run of the actor model is
  accepted by `monC13`.  No wiring hypothesis.
-/
namespace Hannibal
open AState

/-- What the monitor of a stream-attached actor has counted (`fin` times `finished`, `stop` times `stopped`),
    phase by phase: nothing before the loop has left, `finished` and not `stopped` while `finished` runs or has
    returned; from the final `stopped` on the counts no longer matter.  No handler carries a deadline (the
    stream loop applies no handler timeout: `deadlineAt`) and no refresh is ever in progress (a stream-attached
    loop does not restart). -/
def phaseOk13 (fin stop : Nat) : Phase → Prop
  | .unstarted | .starting | .idle | .leaving => fin = 0 ∧ stop = 0
  | .handling _ _ dl => dl = none ∧ fin = 0 ∧ stop = 0
  | .finishing | .finishedDone => fin = 1 ∧ stop = 0
  | .stopping | .exiting _ | .done _ => True
  | .rstBegin | .rstStopping | .rstStopped _ => False

structure C13Inv (c : MonCtx) (s : AState) (σ : C13St) : Prop where
  cfg : s.cfg = c.cfg
  ready : σ.ready = s.avail
  ph : phaseOk13 σ.finishedSeen σ.stoppedSeen s.phase
  canc : s.abandon.isSome = true → σ.cancelled = true

theorem mon13_other (σ : C13St) {l : Label} (hl : l.isLoop = false) :
    bad13 σ l = false ∧ (next13 σ l).cancelled = σ.cancelled ∧
      (next13 σ l).finishedSeen = σ.finishedSeen ∧ (next13 σ l).stoppedSeen = σ.stoppedSeen := by
  cases l <;> first | exact ⟨rfl, rfl, rfl, rfl⟩ | cases hl

theorem c13_step_stream (w : Wiring) (c : MonCtx) (hstream : c.cfg.stream = true) {s s' : AState} {σ : C13St}
    {l : Label} (hi : C13Inv c s σ) (hs : step w s l = some s') :
    bad13 σ l = false ∧ C13Inv c s' (next13 σ l) := by
  obtain ⟨hcfg, hr, hph, hcanc⟩ := hi
  have hready : (next13 σ l).ready = s'.avail := by
    rw [step_avail hs, ← hr]
    cases l <;> first | rfl | (rename_i cb; cases cb <;> rfl)
  suffices h : bad13 σ l = false ∧ phaseOk13 (next13 σ l).finishedSeen (next13 σ l).stoppedSeen s'.phase ∧
      (s'.abandon.isSome = true → (next13 σ l).cancelled = true) from
    ⟨h.1, (step_cfg hs).trans hcfg, hready, h.2.1, h.2.2⟩
  clear hready
  cases hl : l.isLoop
  · obtain ⟨hb, hc, hf, hst⟩ := mon13_other σ hl
    exact ⟨hb, by rwa [hf, hst, step_phase hs hl], by rwa [hc, step_abandon hs hl]⟩
  · -- each `LoopStep` case fixes `s.phase`; `simp` evaluates the monitor and `phaseOk13`
    have hst : s.cfg.stream = true := by rw [hcfg, hstream]
    cases step_loop hs hl <;> clear hs hcfg hstream hl <;> simp_all [bad13, next13, phaseOk13, deadlineAt]

theorem c13_init (c : MonCtx) : C13Inv c (AState.init c.cfg c.h0 c.k0) (monC13 c).init :=
  ⟨rfl, rfl, ⟨rfl, rfl⟩, fun h => nomatch h⟩

/-- **C13 (order / never abandoned / finished then stopped, once).** Every run of the actor model —
    empty, finite, never-ending, never-ready or bursty streams, messages interleaved with items, both
    outcomes of the loop's tie-break, every termination cause — is accepted by `monC13`. -/
theorem C13_holds (w : Wiring) (c : MonCtx) (ls : List Label) (s : AState)
    (hr : run w (AState.init c.cfg c.h0 c.k0) ls = some s) : (monC13 c).ok ls = true := by
  cases hstream : c.cfg.stream
  · -- plain (not stream-attached) actors: `monC13` has nothing to say
    exact ok_of_run_lift (monC13 c) w (fun _ _ => True)
      (fun _ _ σ _ _ _ => ⟨σ, by simp [monC13, hstream], trivial⟩) _ trivial ls s hr
  · exact ok_of_run_lift (monC13 c) w (C13Inv c)
      (fun s s' σ l hi hs => by
        obtain ⟨hb, hi'⟩ := c13_step_stream w c hstream hi hs
        exact ⟨next13 σ l, by simp [monC13, hstream, hb], hi'⟩)
      _ (c13_init c) ls s hr

/-- Non-vacuity: items interleaved with a message, then the stream ends. -/
def c13Example : List Label :=
  [ .cbBegin .started, .cbEnd .started true, .streamReady 0, .streamReady 1, .begin 0 0 (.send 7),
    .cbBegin (.item 0), .cbEnd (.item 0) true, .cbBegin (.handle 7), .cbEnd (.handle 7) true,
    .cbBegin (.item 1), .cbEnd (.item 1) true, .streamEnd, .tStreamEnd, .cbBegin .finished, .cbEnd .finished true,
    .cbBegin .stopped, .cbEnd .stopped true, .taskDone ]
def c13Cfg : Cfg := { cap := none, strat := .non, timeout := none, failOnTimeout := false, stream := true }
def c13Ctx : MonCtx := { cfg := c13Cfg, h0 := 0, k0 := .addr, prompt := true }
/-- skipping an item is flagged -/
example : (monC13 c13Ctx).ok [ .cbBegin .started, .cbEnd .started true, .streamReady 0, .streamReady 1,
    .cbBegin (.item 1) ] = false := by decide

end Hannibal
