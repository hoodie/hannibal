import Hannibal.Monitor.SendErr
import Hannibal.Proofs.Run
import Hannibal.Proofs.C02Chan
/-
  SendErr: an operation is refused with a send error only after the actor's task has ended.
  Invariant: while the monitor has not seen a terminating label the receiver exists, and every
  recorded operation that failed with a send error was recorded after a terminating label.
-/
namespace Hannibal
open AState

structure SendErrInv (s : AState) (term : Bool) : Prop where
  rx : term = false → s.chan.rx = true
  ops : ∀ r ∈ s.ops, r.st = .failed .send → term = true

theorem sendErr_step (w : Wiring) {s s' : AState} {term : Bool} {l : Label}
    (hi : SendErrInv s term) (hs : step w s l = some s') :
    badSendErr term l = false ∧ SendErrInv s' (term || l.terminates) := by
  cases hl : l.terminates with
  | true =>
    refine ⟨?_, ⟨by simp, fun _ _ _ => by simp⟩⟩
    cases l <;> first | rfl | cases hl
  | false =>
    rw [Bool.or_false]
    have hrx : term = false → s'.chan.rx = true := fun h => (step_chanOf hs).rx hl ▸ hi.rx h
    refine ⟨?_, hrx, ?_⟩
    · -- only a record that failed with a send error returns a send error
      cases l <;> first | rfl | skip
      obtain ⟨rec, hfind, hexp, -, -⟩ := stepRet_ops hs
      cases retExpect_row hexp with
      | failed e hst =>
        cases e <;> first | rfl | skip
        simp [badSendErr, hi.ops rec (findOp_some_mem hfind).1 hst]
      | _ => rfl
    · intro r hr hf
      by_cases he : l.isOpEdge = true
      · rcases edge_ops hs he r hr with ⟨hr, -⟩ | ⟨o, h, k, st, -, hout, rfl, -⟩
        · exact hi.ops r hr hf
        · -- `begin` records a send failure only when the receiver is gone
          rcases hout.st_cases with rfl | rfl | rfl | rfl | ⟨-, h0⟩ <;> first | (cases hf; done) | skip
          cases ht : term
          · rw [hi.rx ht] at h0; cases h0
          · rfl
      · -- and nobody else makes a record fail
        obtain ⟨f, hf', pf⟩ := step_ops hs (by simpa using he)
        rw [hf'] at hr
        obtain ⟨r0, hr0, rfl⟩ := List.mem_map.mp hr
        exact hi.ops r0 hr0 (pf.failed r0 _ hf)

theorem sendErr_init (c : MonCtx) : SendErrInv (AState.init c.cfg c.h0 c.k0) monSendErr.init :=
  ⟨fun _ => rfl, fun r hr => by simp [AState.init] at hr⟩

/-- **SendErr.** For every wiring and every run of the model: an operation is refused with a send
    error (`Disconnected`) only after the actor's task has ended (`taskDone`, `taskPanic` or `cancel`). -/
theorem SendErr_holds (w : Wiring) (c : MonCtx) (ls : List Label) (s : AState)
    (hr : run w (AState.init c.cfg c.h0 c.k0) ls = some s) : monSendErr.ok ls = true :=
  ok_of_run_lift monSendErr w SendErrInv
    (fun s s' term l hi hs => by
      obtain ⟨hb, hi'⟩ := sendErr_step w hi hs
      exact ⟨term || l.terminates, by simp [monSendErr, hb], hi'⟩)
    _ (sendErr_init c) ls s hr

/- Non-vacuity: a send error before the task has ended is flagged; after it, it is accepted. -/
example : monSendErr.ok [.begin 0 0 (.send 1), .ret 0 (.err .send)] = false := by decide
example : monSendErr.ok [.cbBegin .started, .cbEnd .started true, .begin 0 0 (.send 1), .ret 0 (.err .send),
    .taskDone] = false := by decide
example : monSendErr.ok [.taskDone, .begin 0 0 (.send 1), .ret 0 (.err .send)] = true := by decide
example : monSendErr.ok [.cancel, .begin 0 0 (.send 1), .ret 0 (.err .send)] = true := by decide
example : monSendErr.ok [.begin 0 0 (.send 1), .ret 0 (.err .canceled)] = true := by decide

end Hannibal
