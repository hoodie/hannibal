import Hannibal.Props.C01P
import Hannibal.Generated.Wiring
/- C01 (the mailbox is FIFO, said of pings) for the wiring extracted from today's source. -/
namespace Hannibal

theorem C01p_current (c : MonCtx) (ls : List Label) (s : AState)
    (hr : run Wiring.current (AState.init c.cfg c.h0 c.k0) ls = some s) (hwf : wf01 ls = true) :
    monC01p.ok ls = true :=
  C01p_holds _ c ls s hr hwf

theorem C01p_current_fresh (c : MonCtx) (ls : List Label) (s : AState)
    (hr : run Wiring.current (AState.init c.cfg c.h0 c.k0) ls = some s) (hfresh : opIdsFresh ls = true) :
    monC01p.ok ls = true :=
  C01p_holds_fresh _ c ls s hr hfresh

def c01pCfg : Cfg := { cap := none, strat := .only, timeout := none, failOnTimeout := false, stream := false }

example : (run Wiring.current (AState.init c01pCfg 0 .addr) c01pExample).isSome = true := by decide

/-- the actor is busy with message 1 (its handler sleeps until time 5) when the send of message 2 is
    acknowledged; ping 2 begins; the handler finishes, the actor handles message 2, takes the ping; the ping
    returns Ok -/
def c01pBusy : List Label :=
  [ .cbBegin .started, .cbEnd .started true,
    .begin 0 0 (.send 1), .ret 0 .ok, .cbBegin (.handle 1), .work 5,
    .begin 1 0 (.send 2), .ret 1 .ok,
    .begin 2 0 .ping,
    .time 5, .cbEnd (.handle 1) true,
    .cbBegin (.handle 2), .cbEnd (.handle 2) true,
    .tDeq, .ret 2 .ok ]

example : (run Wiring.current (AState.init c01pCfg 0 .addr) c01pBusy).isSome = true := by decide
example : (drun Wiring.current (AState.init c01pCfg 0 .addr) c01pBusy).isSome = true := by decide
example : monC01p.ok c01pBusy = true := by decide
example : wf01 c01pBusy = true := by decide
example : opIdsFresh c01pBusy = true := by decide

/-- the bad continuation - the ping returns Ok before `cbBegin (.handle 2)` - is rejected by the monitor and
    refused by the model at every point after the ping's begin: while the actor is busy, ... -/
example : monC01p.ok (c01pBusy.take 9 ++ [.ret 2 .ok]) = false := by decide
example : run Wiring.current (AState.init c01pCfg 0 .addr) (c01pBusy.take 9 ++ [.ret 2 .ok]) = none := by decide
/-- ... once it is idle again, ... -/
example : monC01p.ok (c01pBusy.take 11 ++ [.ret 2 .ok]) = false := by decide
example : run Wiring.current (AState.init c01pCfg 0 .addr) (c01pBusy.take 11 ++ [.ret 2 .ok]) = none := by decide
/-- ... and the loop cannot take the ping's payload ahead of message 2 -/
example : run Wiring.current (AState.init c01pCfg 0 .addr) (c01pBusy.take 11 ++ [.tDeq]) = none := by decide
/-- once message 2 is being handled the ping still cannot return before the loop takes its payload (the model is
    stricter than the monitor here) -/
example : monC01p.ok (c01pBusy.take 12 ++ [.ret 2 .ok]) = true := by decide
example : run Wiring.current (AState.init c01pCfg 0 .addr) (c01pBusy.take 12 ++ [.ret 2 .ok]) = none := by decide

/-- a ping whose submission fails (the receiver is gone) is never enqueued and returns an error although the
    acknowledged message 1 was dropped with the mailbox, never handled -/
def c01pRefused : List Label :=
  [ .cbBegin .started, .cbEnd .started true,
    .stopReq 0 true, .begin 0 0 (.send 1), .ret 0 .ok,
    .tDeq, .cbBegin .stopped, .cbEnd .stopped true, .taskDone,
    .begin 1 0 .ping ]
example : (run Wiring.current (AState.init c01pCfg 0 .addr) (c01pRefused ++ [.ret 1 (.err .send)])).isSome = true := by
  decide
example : monC01p.ok (c01pRefused ++ [.ret 1 (.err .send)]) = true := by decide
example : monC01p.ok (c01pRefused ++ [.ret 1 .ok]) = false := by decide
example : run Wiring.current (AState.init c01pCfg 0 .addr) (c01pRefused ++ [.ret 1 .ok]) = none := by decide

/-- a stop marker sits ahead of the acknowledged message 1: it is never handled; the ping is behind the stop
    too, its payload is dropped with the mailbox (`dropRx`), it is cancelled and never returns Ok -/
def c01pBehindStop : List Label :=
  [ .cbBegin .started, .cbEnd .started true,
    .stopReq 0 true, .begin 0 0 (.send 1), .ret 0 .ok, .begin 1 0 .ping,
    .tDeq, .cbBegin .stopped, .cbEnd .stopped true, .taskDone ]
example : (run Wiring.current (AState.init c01pCfg 0 .addr) (c01pBehindStop ++ [.ret 1 (.err .canceled)])).isSome = true := by
  decide
example : monC01p.ok (c01pBehindStop ++ [.ret 1 (.err .canceled)]) = true := by decide
example : monC01p.ok (c01pBehindStop ++ [.ret 1 .ok]) = false := by decide
example : run Wiring.current (AState.init c01pCfg 0 .addr) (c01pBehindStop ++ [.ret 1 .ok]) = none := by decide
example : run Wiring.current (AState.init c01pCfg 0 .addr) (c01pBehindStop.take 6 ++ [.ret 1 .ok]) = none := by decide
example : run Wiring.current (AState.init c01pCfg 0 .addr) (c01pBehindStop.take 7 ++ [.ret 1 .ok]) = none := by decide
/-- after the stop the loop takes nothing any more -/
example : run Wiring.current (AState.init c01pCfg 0 .addr) (c01pBehindStop.take 7 ++ [.tDeq]) = none := by decide

/-- the actor fails (its handler panics) with message 2 and the ping queued: both are dropped, the ping is
    cancelled -/
def c01pPanic : List Label :=
  [ .cbBegin .started, .cbEnd .started true,
    .begin 0 0 (.send 1), .ret 0 .ok, .cbBegin (.handle 1),
    .begin 1 0 (.send 2), .ret 1 .ok, .begin 2 0 .ping,
    .cbPanic (.handle 1), .taskDone ]
example : (run Wiring.current (AState.init c01pCfg 0 .addr) (c01pPanic ++ [.ret 2 (.err .canceled)])).isSome = true := by
  decide
example : monC01p.ok (c01pPanic ++ [.ret 2 (.err .canceled)]) = true := by decide
example : run Wiring.current (AState.init c01pCfg 0 .addr) (c01pPanic ++ [.ret 2 .ok]) = none := by decide

/-- a restart keeps the mailbox: message 2 and the ping, queued behind the restart request, are taken in order
    by the restarted actor -/
def c01pRstCfg : Cfg := { c01pCfg with strat := .recreate }
def c01pRestart : List Label :=
  [ .cbBegin .started, .cbEnd .started true,
    .begin 0 0 (.send 1), .ret 0 .ok, .cbBegin (.handle 1),
    .restartReq 0 true, .begin 1 0 (.send 2), .ret 1 .ok, .begin 2 0 .ping,
    .cbEnd (.handle 1) true,
    .tDeq, .cbBegin .stopped, .cbEnd .stopped true, .vnew 1, .cbBegin .started, .cbEnd .started true,
    .cbBegin (.handle 2), .cbEnd (.handle 2) true, .tDeq, .ret 2 .ok ]
example : (run Wiring.current (AState.init c01pRstCfg 0 .addr) c01pRestart).isSome = true := by decide
example : monC01p.ok c01pRestart = true := by decide
example : wf01 c01pRestart = true := by decide
/-- the ping does not return Ok during the restart -/
example : run Wiring.current (AState.init c01pRstCfg 0 .addr) (c01pRestart.take 16 ++ [.ret 2 .ok]) = none := by decide
example : monC01p.ok (c01pRestart.take 16 ++ [.ret 2 .ok]) = false := by decide
example : run Wiring.current (AState.init c01pRstCfg 0 .addr) (c01pRestart.take 16 ++ [.tDeq]) = none := by decide

/-- a stream-attached actor: stream items are handled in between, the mailbox stays FIFO -/
def c01pStreamCfg : Cfg := { c01pCfg with stream := true }
def c01pStream : List Label :=
  [ .cbBegin .started, .cbEnd .started true,
    .streamReady 1, .cbBegin (.item 1),
    .begin 0 0 (.send 1), .ret 0 .ok, .begin 1 0 .ping, .streamReady 2,
    .cbEnd (.item 1) true, .cbBegin (.item 2), .cbEnd (.item 2) true,
    .cbBegin (.handle 1), .cbEnd (.handle 1) true, .tDeq, .ret 1 .ok ]
example : (run Wiring.current (AState.init c01pStreamCfg 0 .addr) c01pStream).isSome = true := by decide
example : monC01p.ok c01pStream = true := by decide
example : run Wiring.current (AState.init c01pStreamCfg 0 .addr) (c01pStream.take 11 ++ [.tDeq]) = none := by decide
example : run Wiring.current (AState.init c01pStreamCfg 0 .addr) (c01pStream.take 11 ++ [.ret 1 .ok]) = none := by
  decide
example : monC01p.ok (c01pStream.take 11 ++ [.ret 1 .ok]) = false := by decide

/-- a broadcast of the parent (`ext`) and a tick of an interval timer wait in the mailbox ahead of message 1:
    they become user messages in place, the order of the rest is untouched -/
def c01pExtTick : List Label :=
  [ .cbBegin .started, .ctxTimer 0 .interval 3, .timerArm 0 3, .cbEnd .started true,
    .begin 0 0 (.send 1), .ret 0 .ok, .cbBegin (.handle 1),
    .extPush 7, .time 3, .timerArm 0 6,
    .begin 1 0 (.send 2), .ret 1 .ok, .begin 2 0 .ping,
    .cbEnd (.handle 1) true,
    .extBegin 7 100, .cbBegin (.handle 100), .cbEnd (.handle 100) true,
    .tickBegin 0 101, .cbBegin (.handle 101), .cbEnd (.handle 101) true,
    .cbBegin (.handle 2), .cbEnd (.handle 2) true, .tDeq, .ret 2 .ok ]
example : (run Wiring.current (AState.init c01pCfg 0 .addr) c01pExtTick).isSome = true := by decide
example : monC01p.ok c01pExtTick = true := by decide
example : wf01 c01pExtTick = true := by decide
example : run Wiring.current (AState.init c01pCfg 0 .addr) (c01pExtTick.take 14 ++ [.tDeq]) = none := by decide
example : run Wiring.current (AState.init c01pCfg 0 .addr) (c01pExtTick.take 20 ++ [.tDeq]) = none := by decide
example : run Wiring.current (AState.init c01pCfg 0 .addr) (c01pExtTick.take 20 ++ [.ret 2 .ok]) = none := by decide
example : monC01p.ok (c01pExtTick.take 20 ++ [.ret 2 .ok]) = false := by decide

/-- bounded mailbox (capacity 0): the send of message 2 is acknowledged only when the loop has taken it; a ping
    begun before that is not constrained by it, a ping begun afterwards finds it begun -/
def c01pBoundedCfg : Cfg := { c01pCfg with cap := some 0 }
def c01pBounded : List Label :=
  [ .cbBegin .started, .cbEnd .started true,
    .begin 0 0 (.send 1), .cbBegin (.handle 1), .ret 0 .ok,
    .begin 1 0 (.send 2), .begin 2 0 .ping,
    .cbEnd (.handle 1) true, .cbBegin (.handle 2), .ret 1 .ok, .begin 3 0 .ping, .cbEnd (.handle 2) true,
    .tDeq, .ret 2 .ok, .tDeq, .ret 3 .ok ]
example : (run Wiring.current (AState.init c01pBoundedCfg 0 .addr) c01pBounded).isSome = true := by decide
example : monC01p.ok c01pBounded = true := by decide
/-- the send of message 2 cannot be acknowledged while it is parked -/
example : run Wiring.current (AState.init c01pBoundedCfg 0 .addr) (c01pBounded.take 7 ++ [.ret 1 .ok]) = none := by
  decide

/-! ### the hypothesis

  `opIdsFresh` (the part of `wf01` that is used) is needed: the monitor identifies operations by the ids the trace
  gives them; the model lets a trace use an id again once the first operation's future was dropped.  Real traces
  never re-use an id (`monC02wf` / `monWf01` check it on every trace). -/

/-- an operation id re-used after its future was dropped: the payload of the old ping 9 is still queued, ahead of
    message 1; when the loop takes it, it marks the record of the new ping 9, which returns Ok although the
    acknowledged message 1 has not been handled.  Accepted by `run`, `grun` and `drun`, rejected by the monitor. -/
def c01pReuseOp : List Label :=
  [ .cbBegin .started, .cbEnd .started true, .begin 9 0 .ping, .cdrop 9,
    .begin 0 0 (.send 1), .ret 0 .ok, .begin 9 0 .ping, .tDeq, .ret 9 .ok ]
example : (run Wiring.current (AState.init c01pCfg 0 .addr) c01pReuseOp).isSome = true := by decide
example : (grun Wiring.current (AState.init c01pCfg 0 .addr) c01pReuseOp).isSome = true := by decide
example : (drun Wiring.current (AState.init c01pCfg 0 .addr) c01pReuseOp).isSome = true := by decide
example : monC01p.ok c01pReuseOp = false := by decide
example : opIdsFresh c01pReuseOp = false := by decide
example : wf01 c01pReuseOp = false := by decide

/-- freshness of message numbers is not needed: a trace that re-uses message number 1 (so `wf01` fails) with
    fresh operation ids is covered by `C01p_holds_fresh` -/
def c01pReuseMsg : List Label :=
  [ .cbBegin .started, .cbEnd .started true,
    .begin 0 0 (.send 1), .ret 0 .ok, .cbBegin (.handle 1), .cbEnd (.handle 1) true,
    .begin 1 0 (.send 1), .ret 1 .ok, .begin 2 0 .ping, .cbBegin (.handle 1), .cbEnd (.handle 1) true,
    .tDeq, .ret 2 .ok ]
example : (run Wiring.current (AState.init c01pCfg 0 .addr) c01pReuseMsg).isSome = true := by decide
example : wf01 c01pReuseMsg = false := by decide
example : opIdsFresh c01pReuseMsg = true := by decide
example : monC01p.ok c01pReuseMsg = true := by decide

end Hannibal
