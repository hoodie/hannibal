import Hannibal.Proofs.C12Step
import Hannibal.Proofs.Run
import Hannibal.Generated.Wiring
/-
  C12 — A bounded mailbox exerts backpressure on send.

  Property theorem: for every wiring in which `send` uses the waiting path,
  every mailbox bound n (0 included), every run of the actor model — any
  number of clients, handles, messages, any interleaving of waiting and forcing
  submissions, dequeues, timers, restarts and faults — is accepted by the C12
  monitor: at every moment before termination, the number of send operations
  that returned Ok and whose message has not been taken out of the mailbox is
  at most n.
-/
namespace Hannibal
open AState

theorem c12_step (w : Wiring) (hw : WellWired12 w) (n : Nat) {s s' : AState} {σ : C12St} {l : Label}
    (hi : C12Inv n s σ) (hs : step w s l = some s') :
    ∃ σ', (monC12 (some n)).step σ l = some σ' ∧ C12Inv n s' σ' := by
  have hc := step_chanOf hs
  cases l
  case begin o h k =>
    have hcs := hc.toChanStep
    have hc := hc.plain rfl
    obtain ⟨hfresh, st, hops, hbo, -⟩ := stepBegin_ops hs
    have hne := findOp_none_ne hfresh
    have hnd : (s'.ops.map (·.o)).Nodup := by
      rw [hops]; simp [List.nodup_append]
      exact ⟨hi.nodupOps, fun a ha => by simpa using (hne a ha)⟩
    have hbase : ∀ σ' : C12St, σ'.out = σ.out → σ'.dead = σ.dead → σ'.handled = σ.handled →
        (∀ p ∈ σ'.sends, ∃ r ∈ s'.ops, r.o = p.1 ∧ isSendKind r.kind = some p.2) →
        C12Inv n s' σ' := by
      intro σ' hout hdead hhand hsends
      have hwf : s'.chan.WF := hcs.wf hi.wf
      have hcap : s'.chan.cap = some n := by rw [hcs.cap]; exact hi.cap
      refine ⟨hwf, hcap, hnd, hsends, by rw [hout]; exact hi.outNodup, ?_, ?_⟩
      · intro hd m hm
        rw [hout] at hm; rw [hdead] at hd
        obtain ⟨x, hx, hpl⟩ := hi.outIn hd m hm
        rcases hc with hc | ⟨_, _, _, _, _, _, hc⟩
        · exact ⟨x, by rw [hc]; exact hx, hpl⟩
        · exact ⟨x, by rw [hc]; exact mem_take_enq hx, hpl⟩
      · intro hd r hr hst m hk
        rw [hdead] at hd; rw [hhand]
        rw [hops] at hr
        rcases List.mem_append.mp hr with hr | hr
        · rcases hi.pend hd r hr hst m hk with h | ⟨x, hx, h1, h2⟩
          · exact .inl h
          · rcases hc with hc | ⟨_, _, _, _, _, _, hc⟩
            · exact .inr ⟨x, by rw [hc]; exact hx, h1, h2⟩
            · exact .inr ⟨x, by rw [hc]; exact mem_queue_enq hx, h1, h2⟩
        · obtain rfl := List.mem_singleton.mp hr
          exact .inr (hbo.send_entry hst hk hw)
    have hold : ∀ p ∈ σ.sends, ∃ r ∈ s'.ops, r.o = p.1 ∧ isSendKind r.kind = some p.2 := by
      intro p hp
      obtain ⟨r, hr, h1, h2⟩ := hi.sends p hp
      exact ⟨r, by rw [hops]; exact List.mem_append_left _ hr, h1, h2⟩
    cases hk : isSendKind k with
    | none => exact ⟨σ, by simp only [monC12, hk], hbase σ rfl rfl rfl hold⟩
    | some m =>
      refine ⟨{ σ with sends := (o, m) :: σ.sends }, by simp only [monC12, hk], hbase _ rfl rfl rfl ?_⟩
      intro p hp
      rcases List.mem_cons.mp hp with rfl | hp
      · exact ⟨_, by rw [hops]; exact List.mem_append_right _ (List.mem_singleton.mpr rfl), rfl, hk⟩
      · exact hold p hp
  case ret o r =>
    simp only [step] at hs
    obtain ⟨rec, hfind, hexp, hops, hro⟩ := stepRet_ops hs
    obtain ⟨hrec, _⟩ := findOp_some_mem hfind
    have hkeep := inv_remove hi o (hc.eq rfl rfl) hops
    by_cases hrok : r = .ok
    · subst hrok
      cases hfs : σ.sends.find? (fun p => p.1 == o) with
      | none =>
        exact ⟨_, by simp only [monC12, hfs, if_true], hkeep σ.out hi.outNodup hi.outIn⟩
      | some p =>
        obtain ⟨o', m⟩ := p
        by_cases hskip : (σ.dead || σ.handled.contains m || σ.out.contains m) = true
        · exact ⟨_, by simp only [monC12, hfs, hskip, if_true], hkeep σ.out hi.outNodup hi.outIn⟩
        · have hpm := List.mem_of_find?_eq_some hfs
          have hpo : o' = o := by simpa using List.find?_some hfs
          subst hpo
          obtain ⟨r0, hr0, h1, h2⟩ := hi.sends _ hpm
          obtain rfl : r0 = rec := eq_of_nodup_map (·.o) hi.nodupOps hr0 hrec (h1.trans hro.symm)
          have hskip' := hskip
          simp at hskip'
          obtain ⟨⟨hdead, hnh⟩, hno⟩ := hskip'
          -- the send returns `Ok`: it is pending and no longer parked, so its entry is among the first `n`
          have hpend : r0.st = .pending ∧ s.chan.isParked (.op r0.o) = false := by
            cases retExpect_row hexp with
            | sent hst _ hp => exact ⟨hst, hp⟩
            | fired _ hk => cases hkk : r0.kind <;> rw [hkk] at hk h2 <;> first | (cases h2; done) | cases hk
            | pinged _ hk => rw [hk] at h2; cases h2
          rw [hro] at hpend
          rcases hi.pend hdead r0 hr0 hpend.1 m h2 with h | ⟨e, he, htok, hpl⟩
          · exact absurd h hnh
          · have hin := Chan.mem_take_of_not_parked s.chan n hi.cap hi.wf e he (by rw [htok, hro]; exact hpend.2)
            have hnd' : (σ.out ++ [m]).Nodup := by
              simp [List.nodup_append, hi.outNodup]
              intro a ha h; subst h; exact hno ha
            have hin' : σ.dead = false → ∀ m' ∈ σ.out ++ [m], ∃ e ∈ s.chan.queue.take n, e.pl = .msg m' none := by
              intro hd m' hm'
              rcases List.mem_append.mp hm' with h | h
              · exact hi.outIn hd m' h
              · obtain rfl := List.mem_singleton.mp h; exact ⟨e, hin, hpl⟩
            -- the new `out` is covered by the first `n` entries of the queue: it has at most `n` elements
            have hlen : (σ.out ++ [m]).length ≤ n := out_length_le (hkeep (σ.out ++ [m]) hnd' hin') hdead
            exact ⟨_, by simp only [monC12, hfs, hskip, hlen, if_true, Bool.false_eq_true, if_false],
              hkeep (σ.out ++ [m]) hnd' hin'⟩
    · exact ⟨_, by simp only [monC12, hrok, if_false], hkeep σ.out hi.outNodup hi.outIn⟩
  case cdrop o =>
    exact ⟨{ σ with sends := σ.sends.filter (fun p => p.1 != o) }, rfl,
      inv_remove hi o (hc.eq rfl rfl) (stepCdrop_ops hs) σ.out hi.outNodup hi.outIn⟩
  case cbBegin cb =>
    have ho := step_ops hs rfl
    cases cb
    case handle m =>
      obtain ⟨_, tok, rest, ⟨_, sl⟩, hq, -, hc⟩ := hc.takes (.handle m none)
      refine ⟨{ σ with out := σ.out.erase m, handled := m :: σ.handled }, rfl, ?_⟩
      refine inv_deq hi _ rest hq hc ho _ rfl rfl (hi.outNodup.erase m) ?_ ?_ ?_
      · intro m' hm'
        have := (hi.outNodup.mem_erase_iff).mp hm'
        exact ⟨this.2, fun h => this.1 (Payload.msg.inj h).1.symm⟩
      · intro m' hm'; exact List.mem_cons_of_mem _ hm'
      · intro m' hm'; rw [(Payload.msg.inj hm').1]; exact List.mem_cons_self
    all_goals exact ⟨σ, rfl, inv_plain hi hc rfl ho⟩
  case tickBegin t m =>
    obtain ⟨tok, rest, hq, hc⟩ := hc.binds (.tick t m)
    exact ⟨σ, rfl, inv_rename_pl hi (.tick t) nofun m tok rest hq hc (step_ops hs rfl)⟩
  case extBegin b m =>
    obtain ⟨tok, rest, hq, hc⟩ := hc.binds (.ext b m)
    exact ⟨σ, rfl, inv_rename_pl hi (.ext b) nofun m tok rest hq hc (step_ops hs rfl)⟩
  case tDeq =>
    obtain ⟨pl, tok, rest, hpl, hq, -, hc⟩ := hc.takes .stop
    have hne : ∀ m, pl ≠ .msg m none := by intro m h; rw [h] at hpl; cases hpl
    exact ⟨σ, rfl, inv_deq hi _ rest hq hc (step_ops hs rfl) σ rfl rfl hi.outNodup
      (fun m hm => ⟨hm, hne m⟩) (fun _ h => h) (fun m h => absurd h (hne m))⟩
  case cancel | taskDone | taskPanic =>
    have hc := hc.drops rfl
    exact ⟨{ σ with dead := true }, rfl,
      inv_dead hi (hc ▸ Chan.wf_dropRx _) (by rw [hc]; rfl) (step_ops hs rfl)⟩
  all_goals exact ⟨σ, rfl, inv_plain hi hc rfl (step_ops hs rfl)⟩

theorem c12_init (cfg : Cfg) (h0 : Nat) (k0 : HKind) (n : Nat) (hcap : cfg.cap = some n) :
    C12Inv n (AState.init cfg h0 k0) (monC12 (some n)).init :=
  ⟨Chan.wf_init _, hcap, List.nodup_nil, nofun, List.nodup_nil, fun _ => nofun, fun _ => nofun⟩

theorem c12_unbounded_step (σ : C12St) (l : Label) : ((monC12 none).step σ l).isSome := by
  cases l
  case begin o h k => simp only [monC12]; split <;> rfl
  case ret o r => simp only [monC12]; (repeat' split) <;> rfl
  case cbBegin cb => cases cb <;> rfl
  all_goals rfl

theorem c12_unbounded_run (ls : List Label) (σ : C12St) : ((monC12 none).run σ ls).isSome := by
  obtain ⟨_, hm, -⟩ := Folds.unit.sim (monC12 none).run_folds (fun _ _ => True)
    (fun _ _ σ l _ _ => (Option.isSome_iff_exists.mp (c12_unbounded_step σ l)).imp fun _ h => ⟨h, trivial⟩)
    ls () () σ trivial rfl
  exact Option.isSome_iff_exists.mpr ⟨_, hm⟩

/-- **C12.** For every wiring whose `send` entry points use the waiting path, every
    configuration (any bound n, 0 included, or unbounded), every initial handle and
    every label sequence the actor model can perform — all client programs, all
    interleavings with the loop, timers, restarts, faults — the C12 monitor accepts:
    before termination, #(sends returned Ok) − #(of those taken out) ≤ n at every moment. -/
theorem C12_holds (w : Wiring) (hw : WellWired12 w) (cfg : Cfg) (h0 : Nat) (k0 : HKind)
    (ls : List Label) (s : AState) (hr : run w (AState.init cfg h0 k0) ls = some s) :
    (monC12 cfg.cap).ok ls = true := by
  cases hcap : cfg.cap with
  | none => exact c12_unbounded_run ls _
  | some n =>
    exact ok_of_run_lift (monC12 (some n)) w (C12Inv n) (fun _ _ _ _ hi hs => c12_step w hw n hi hs) _
      (c12_init cfg h0 k0 n hcap) ls s hr

/-- State-level form: in every reachable state of a bounded(n) actor the parked senders are
    exactly the submitters of the entries beyond the n-th (so at most n entries are un-parked). -/
theorem C12_state (w : Wiring) (cfg : Cfg) (h0 : Nat) (k0 : HKind) :
    ∀ (ls : List Label) (s : AState), run w (AState.init cfg h0 k0) ls = some s → s.chan.WF := by
  intro ls s hr
  -- a monitor that accepts everything: `run_lift` then carries the invariant alone along the run
  obtain ⟨_, _, h⟩ := run_lift ⟨(), fun _ _ => some ()⟩ w (fun s _ => s.chan.WF)
    (fun _ _ _ _ hi hs => ⟨(), rfl, (step_chan hs).wf hi⟩) ls _ s () (Chan.wf_init _) hr
  exact h

theorem wellWired12_current : WellWired12 Wiring.current := by decide

/-- C12 for the wiring extracted from today's source. -/
theorem C12_current (cfg : Cfg) (h0 : Nat) (k0 : HKind) (ls : List Label) (s : AState)
    (hr : run Wiring.current (AState.init cfg h0 k0) ls = some s) : (monC12 cfg.cap).ok ls = true :=
  C12_holds _ wellWired12_current cfg h0 k0 ls s hr

/-- Non-vacuity: a concrete run of a bounded(1) actor in which a second `send` is parked until
    the actor takes the first message out, with the monitor's count at the bound. -/
def c12Example : List Label :=
  [ .mk 0 1 .addr, .begin 0 1 (.send 1), .ret 0 .ok, .begin 1 1 (.send 2),
    .cbBegin .started, .cbEnd .started true, .cbBegin (.handle 1), .ret 1 .ok,
    .cbEnd (.handle 1) true, .cbBegin (.handle 2), .cbEnd (.handle 2) true ]

def c12ExampleCfg : Cfg := { cap := some 1, strat := .only, timeout := none, failOnTimeout := false, stream := false }

example : (run Wiring.current (AState.init c12ExampleCfg 0 .addr) c12Example).isSome = true := by decide
example : (monC12 (some 1)).ok c12Example = true := by decide
/-- returning the second send before the first message is taken out is refused by the model … -/
example : (run Wiring.current (AState.init c12ExampleCfg 0 .addr)
    [ .mk 0 1 .addr, .begin 0 1 (.send 1), .ret 0 .ok, .begin 1 1 (.send 2), .ret 1 .ok ]).isSome = false := by
  decide
/-- … and is exactly what the monitor flags. -/
example : (monC12 (some 1)).ok
    [ .mk 0 1 .addr, .begin 0 1 (.send 1), .ret 0 .ok, .begin 1 1 (.send 2), .ret 1 .ok ] = false := by decide

end Hannibal
