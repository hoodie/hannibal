import Hannibal.Props.C06Send
/-
  C06, quiescence part: with operation ids that are never reused, no operation is left pending on a
  failed actor at quiescence.
-/
namespace Hannibal
open AState

def cSlot : Payload → Option Nat
  | .msg _ (some o) => some o
  | _ => none
def pSlot : Payload → Option Nat
  | .ping o => some o
  | _ => none
def curSlotOf : Phase → List Nat
  | .handling _ (some o) _ => [o]
  | _ => []
def qC (q : List Entry) : List Nat := q.filterMap (fun e => cSlot e.pl)
def qP (q : List Entry) : List Nat := q.filterMap (fun e => pSlot e.pl)
def slotsC (s : AState) : List Nat := curSlotOf s.phase ++ qC s.chan.queue
def slotsP (s : AState) : List Nat := qP s.chan.queue

theorem curSlot_eq (s : AState) : s.curSlot = curSlotOf s.phase := by
  unfold curSlot curSlotOf
  cases s.phase <;> rfl

theorem slot_cases (pl : Payload) :
    (slotOf pl = none ∧ cSlot pl = none ∧ pSlot pl = none) ∨
      (∃ o, slotOf pl = some o ∧ ((cSlot pl = some o ∧ pSlot pl = none) ∨ (cSlot pl = none ∧ pSlot pl = some o))) := by
  rcases pl with ⟨m, _ | o⟩ | o | _ | _ | _ | _
  case msg.some => exact .inr ⟨o, rfl, .inl ⟨rfl, rfl⟩⟩
  case ping => exact .inr ⟨o, rfl, .inr ⟨rfl, rfl⟩⟩
  all_goals exact .inl ⟨rfl, rfl, rfl⟩

theorem slot_none {pl : Payload} (h : slotOf pl = none) : cSlot pl = none ∧ pSlot pl = none := by
  rcases slot_cases pl with h' | ⟨o, h', -⟩
  · exact h'.2
  · rw [h] at h'; cases h'

theorem mem_slotOf {q : List Entry} {o : Nat} :
    o ∈ q.filterMap (fun e => slotOf e.pl) ↔ o ∈ qC q ∨ o ∈ qP q := by
  simp only [qC, qP, List.mem_filterMap, ← exists_or, ← and_or_left]
  refine exists_congr fun e => and_congr_right fun _ => ?_
  rcases slot_cases e.pl with ⟨h, hc, hp⟩ | ⟨x, h, ⟨hc, hp⟩ | ⟨hc, hp⟩⟩ <;> simp [h, hc, hp]

theorem mem_slots (s : AState) (o : Nat) :
    o ∈ s.curSlot ++ s.chan.queue.filterMap (fun e => slotOf e.pl) ↔ o ∈ slotsC s ∨ o ∈ slotsP s := by
  simp only [slotsC, slotsP, List.mem_append, curSlot_eq, mem_slotOf, or_assoc]

theorem slots_deq {q : List Entry} {e : Entry} {rest : List Entry} (hq : q = e :: rest) :
    qC q = (cSlot e.pl).toList ++ qC rest ∧ qP q = (pSlot e.pl).toList ++ qP rest := by
  subst hq
  constructor
  · unfold qC; rw [List.filterMap_cons]; cases cSlot e.pl <;> rfl
  · unfold qP; rw [List.filterMap_cons]; cases pSlot e.pl <;> rfl

/-- What a step other than begin / ret / cdrop does to the pending operations and the slots: the pending
    operations waiting in the call slots `LC` and the ping slots `LP` are resolved, all to the same state —
    `cancelled`, or `answered` (calls only), or `pinged` (pings only) — and exactly these slots disappear. -/
def CoverSpec (s s' : AState) : Prop :=
  ∃ (LC LP : List Nat) (p : Nat → Bool) (st : OpSt),
    (∀ o, p o = true ↔ o ∈ LC ∨ o ∈ LP) ∧
    s'.ops = s.ops.map (fun r => if p r.o && r.st == .pending then { r with st := st } else r) ∧
    slotsC s = LC ++ slotsC s' ∧ slotsP s = LP ++ slotsP s' ∧
    (st = .cancelled ∨ (LP = [] ∧ ∃ v, st = .answered v) ∨ (LC = [] ∧ st = .pinged))

theorem cover_frame {s s' : AState} (hops : s'.ops = s.ops) (hC : slotsC s = slotsC s')
    (hP : slotsP s = slotsP s') : CoverSpec s s' :=
  ⟨[], [], fun _ => false, .cancelled, by simp, by simp [hops], hC, hP, .inl rfl⟩

theorem cover_cancel {s s' : AState} (L LC LP : List Nat) (hL : ∀ o, o ∈ L ↔ o ∈ LC ∨ o ∈ LP)
    (hops : s'.ops = (s.cancelSlots L).ops) (hC : slotsC s = LC ++ slotsC s') (hP : slotsP s = LP ++ slotsP s') :
    CoverSpec s s' :=
  ⟨LC, LP, L.contains, .cancelled, by simpa using hL, hops, hC, hP, .inl rfl⟩

theorem cover_cur {s s' : AState} (hops : s'.ops = (s.cancelSlots (curSlotOf s.phase)).ops)
    (hq : s'.chan.queue = s.chan.queue) (hph : curSlotOf s'.phase = []) : CoverSpec s s' :=
  cover_cancel _ (curSlotOf s.phase) [] (by simp) hops (by simp [slotsC, hq, hph]) (by simp [slotsP, hq])

theorem cover_all {s s' : AState} (L : List Nat) (hL : ∀ o, o ∈ L ↔ o ∈ slotsC s ∨ o ∈ slotsP s)
    (hops : s'.ops = (s.cancelSlots L).ops) (hq : s'.chan.queue = []) (hph : curSlotOf s'.phase = []) :
    CoverSpec s s' :=
  cover_cancel L (slotsC s) (slotsP s) hL hops (by simp [slotsC, hq, hph, qC]) (by simp [slotsP, hq, qP])

/-- a stream item carries no reply slot -/
def itemOk : Phase → Bool
  | .handling (.item _) (some _) _ => false
  | _ => true

theorem step_outside_slots {w s l s'} (hs : step w s l = some s') (hl : l.isLoop = false) (he : l.isOpEdge = false)
    (f : Payload → Option Nat) (hf : ∀ pl, slotOf pl = none → f pl = none) :
    s'.chan.queue.filterMap (fun e => f e.pl) = s.chan.queue.filterMap (fun e => f e.pl) := by
  cases step_chanOf hs with
  | same _ h => rw [h]
  | enq pl tok t hp _ _ h =>
    have : slotOf pl = none := by cases hp <;> first | (cases he; done) | rfl
    simp [h, hf pl this]
  | deq _ _ _ ht => cases ht <;> cases hl
  | bind pl m tok rest hb hq h =>
    have : slotOf pl = none := by cases hb <;> rfl
    simp [h, hq, hf pl this, hf (.msg m none) rfl]
  | drop ht => cases l <;> first | (cases ht; done) | cases hl

theorem step_cover {w s l s'} (hs : step w s l = some s') (hl : l.isOpEdge = false)
    (hitem : itemOk s.phase = true) : CoverSpec s s' := by
  cases hloop : l.isLoop
  · refine cover_frame ((step_frame hs hloop).ops hl) ?_ ?_
    · show _ ++ qC _ = _ ++ qC _
      unfold qC
      rw [step_phase hs hloop, step_outside_slots hs hloop hl cSlot fun _ h => (slot_none h).1]
    · show qP _ = qP _
      unfold qP
      rw [step_outside_slots hs hloop hl pSlot fun _ h => (slot_none h).2]
  · cases step_loop hs hloop
    case handle m slot tok rest hp hq hrx =>
      -- the slot moves from the head of the queue to the callback
      obtain ⟨hC, hP⟩ := slots_deq hq
      refine cover_frame rfl ?_ ?_
      · show curSlotOf s.phase ++ qC s.chan.queue = curSlotOf (.handling (.handle m) slot _) ++ qC s.chan.queue.tail
        rw [hp, hC, hq]; cases slot <;> rfl
      · show qP s.chan.queue = qP s.chan.queue.tail
        rw [hP, hq]; rfl
    case handled m slot dl hw hp =>
      cases slot with
      | none => exact cover_frame rfl (by simp [slotsC, hp, curSlotOf]) rfl
      | some o =>
        exact ⟨[o], [], (· == o), _, by simp, rfl, by simp [slotsC, hp, curSlotOf], rfl, .inr (.inl ⟨rfl, _, rfl⟩)⟩
    case itemDone k slot dl hw hp =>
      cases slot with
      | none => exact cover_frame rfl (by simp [slotsC, hp, curSlotOf]) rfl
      | some o => rw [hp] at hitem; cases hitem
    case timeout cb slot dl hp hdl hf | timeoutFatal cb slot dl hp hdl hf =>
      have h : curSlotOf s.phase = slot.toList := by rw [hp]; cases slot <;> rfl
      exact cover_cur (by rw [h]) rfl rfl
    case panic cb ho => exact cover_cur (by rw [← curSlot_eq]) rfl rfl
    case cancel | doneErr | panicErr => exact cover_all _ (mem_slots s) rfl rfl rfl
    case doneOk hp =>
      refine cover_all _ (fun o => ?_) rfl rfl rfl
      simp only [mem_slotOf, slotsC, slotsP, hp, curSlotOf, List.nil_append]
    case panicRestart tok rest hp hq hst hrx =>
      -- the restart request at the head carries no slot
      obtain ⟨hC, hP⟩ := slots_deq hq
      refine cover_all _ (fun o => ?_) rfl rfl rfl
      rw [mem_slots { s with chan := s.chan.deq }]
      show o ∈ curSlotOf s.phase ++ qC s.chan.queue.tail ∨ o ∈ qP s.chan.queue.tail ↔
        o ∈ curSlotOf s.phase ++ qC s.chan.queue ∨ o ∈ qP s.chan.queue
      rw [hC, hP, hq]; rfl
    case ping e rest o hp hq hrx he =>
      obtain ⟨hC, hP⟩ := slots_deq hq
      refine ⟨[], [o], (· == o), .pinged, by simp, rfl, ?_, ?_, .inr (.inr ⟨rfl, rfl⟩)⟩
      · show curSlotOf s.phase ++ qC s.chan.queue = [] ++ (curSlotOf s.phase ++ qC s.chan.queue.tail)
        rw [hC, hq, he]; rfl
      · show qP s.chan.queue = [o] ++ qP s.chan.queue.tail
        rw [hP, hq, he]; rfl
    case stop e rest hp hq hrx he | restartIgnored e rest hp hq hrx he _ _ | restartTaken e rest hp hq hrx he _ _ =>
      obtain ⟨hC, hP⟩ := slots_deq hq
      refine cover_frame rfl ?_ ?_
      · show curSlotOf s.phase ++ qC s.chan.queue = _ ++ qC s.chan.queue.tail
        rw [hp, hC, hq, he]; rfl
      · show qP s.chan.queue = qP s.chan.queue.tail
        rw [hP, hq, he]; rfl
    -- the remaining moves only change the phase, between phases without a reply slot
    all_goals
      exact cover_frame rfl
        (congrArg (· ++ _) (show curSlotOf s.phase = curSlotOf _ by first | rfl | (rw [‹s.phase = _›]; rfl))) rfl

theorem itemOk_step {w : Wiring} {s s' : AState} {l : Label} (hs : step w s l = some s')
    (hi : itemOk s.phase = true) : itemOk s'.phase = true := by
  cases hl : l.isLoop
  · rw [step_phase hs hl]; exact hi
  · cases step_loop hs hl <;> first | rfl | exact hi

/-- which states an operation of a given kind can be in (given fresh operation ids) -/
def stKindOk (st : OpSt) (k : OpKind) : Bool :=
  match st with
  | .pending => !isJoinKind k
  | .answered _ => k.isCall
  | .pinged => k == .ping
  | .cancelled => k.isCall || k == .ping
  | .joining | .joinNone => isJoinKind k
  | .failed _ => true

theorem slotsC_addOp (s : AState) (o h k st) : slotsC (s.addOp o h k st) = slotsC s := rfl
theorem slotsP_addOp (s : AState) (o h k st) : slotsP (s.addOp o h k st) = slotsP s := rfl

theorem stepBegin_slots {w s o h k s'} (hs : stepBegin w s o h k = some s') :
    s.findOp o = none ∧ ∃ st, s'.ops = s.ops ++ [{ o, h, kind := k, st }] ∧ stKindOk st k = true ∧
      slotsC s' = slotsC s ++ (if st = .pending ∧ k.isCall = true then [o] else []) ∧
      slotsP s' = slotsP s ++ (if st = .pending ∧ k = .ping then [o] else []) := by
  obtain ⟨hfresh, st, hops, hout, -⟩ := stepBegin_ops hs
  refine ⟨hfresh, st, hops, ?_⟩
  unfold slotsC slotsP
  rw [step_phase (l := .begin o h k) hs rfl]
  cases hout with
  | refused e hst hc => subst hst; rw [hc]; simp [stKindOk]
  | wait hpl hc hst =>
    rw [hc]
    rcases hst with ⟨rfl, rfl⟩ | ⟨rfl, rfl | rfl⟩ <;> simp [stKindOk, isJoinKind, OpKind.isCall]
  | sent pl tok hpl _ hc hst =>
    -- a call submits its reply slot, a ping its probe, and nothing else carries a slot
    rw [hc, Chan.enq_queue]
    simp only [qC, qP, List.filterMap_append, List.filterMap_cons, List.filterMap_nil]
    cases k <;> cases hpl <;> rcases hst with ⟨hk, rfl | rfl⟩ | ⟨hk, rfl⟩ <;>
      first | (cases hk; done) | exact absurd rfl hk | skip
    all_goals simp [stKindOk, isJoinKind, OpKind.isCall, cSlot, pSlot]

/-- The operations waiting in one sort of slot (`K` = is a call, is a ping). -/
structure SlotInv (K : OpKind → Prop) (slots : List Nat) (ops : List OpRec) : Prop where
  sk : ∀ o ∈ slots, ∀ r ∈ ops, r.o = o → K r.kind
  cover : ∀ r ∈ ops, r.st = .pending → K r.kind → r.o ∈ slots

theorem SlotInv.resolve {K : OpKind → Prop} {slots slots' L : List Nat} {ops ops' : List OpRec}
    (h : SlotInv K slots ops) (hsl : slots = L ++ slots')
    (hrec : ∀ r' ∈ ops', ∃ r ∈ ops, r'.o = r.o ∧ r'.kind = r.kind ∧ (r'.st = .pending → r' = r ∧ r.o ∉ L)) :
    SlotInv K slots' ops' := by
  refine ⟨fun o ho r' hr' hro => ?_, fun r' hr' hp hK => ?_⟩
  · obtain ⟨r, hr, ho', hk, -⟩ := hrec r' hr'
    exact hk ▸ h.sk o (hsl ▸ List.mem_append_right _ ho) r hr (ho' ▸ hro)
  · obtain ⟨r, hr, -, -, hpend⟩ := hrec r' hr'
    obtain ⟨rfl, hnL⟩ := hpend hp
    exact (List.mem_append.mp (hsl ▸ h.cover _ hr hp hK)).resolve_left hnL

theorem SlotInv.add {K : OpKind → Prop} {slots slots' : List Nat} {ops : List OpRec} {r0 : OpRec}
    (h : SlotInv K slots ops) (hne : ∀ r ∈ ops, r.o ≠ r0.o) (hnew : r0.o ∉ slots)
    (hsl : ∀ x, x ∈ slots' ↔ x ∈ slots ∨ (x = r0.o ∧ r0.st = .pending ∧ K r0.kind)) :
    SlotInv K slots' (ops ++ [r0]) := by
  refine ⟨fun x hx r hr hrx => ?_, fun r hr hp hK => ?_⟩
  · rcases List.mem_append.mp hr with hr | hr <;> rcases (hsl x).mp hx with hx | ⟨rfl, -, hK⟩
    · exact h.sk x hx r hr hrx
    · exact absurd hrx (hne r hr)
    · obtain rfl := List.mem_singleton.mp hr
      exact absurd (hrx ▸ hx) hnew
    · exact List.mem_singleton.mp hr ▸ hK
  · rcases List.mem_append.mp hr with hr | hr
    · exact (hsl _).mpr (.inl (h.cover r hr hp hK))
    · obtain rfl := List.mem_singleton.mp hr
      exact (hsl _).mpr (.inr ⟨rfl, hp, hK⟩)

structure QInv06 (s : AState) (u : List Nat) : Prop where
  kind : ∀ r ∈ s.ops, stKindOk r.st r.kind = true
  c : SlotInv (·.isCall = true) (slotsC s) s.ops
  p : SlotInv (· = .ping) (slotsP s) s.ops
  seen : ∀ o, (o ∈ slotsC s ∨ o ∈ slotsP s) → o ∈ u
  item : itemOk s.phase = true
  dq : DoneChan s

theorem qinv06_init (cfg : Cfg) (h0 : Nat) (k0 : HKind) : QInv06 (AState.init cfg h0 k0) monUniq.init :=
  ⟨fun _ h => (nomatch h), ⟨fun _ h => (nomatch h), fun _ h => (nomatch h)⟩,
    ⟨fun _ h => (nomatch h), fun _ h => (nomatch h)⟩, fun _ h => h.elim (nomatch ·) (nomatch ·), rfl, doneChan_init _ _ _⟩

theorem qinv06_step (w : Wiring) {s s' : AState} {u u' : List Nat} {l : Label} (hi : QInv06 s u)
    (hs : step w s l = some s') (hu : monUniq.step u l = some u') : QInv06 s' u' := by
  have hitem := itemOk_step hs hi.item
  have hdq := doneChan_step hs hi.dq
  cases hedge : l.isOpEdge
  · obtain rfl : u = u' := by
      cases l <;> first | exact Option.some.inj hu | cases hedge
    obtain ⟨LC, LP, p, st, hp, hops, hC, hP, hst⟩ := step_cover hs hedge hi.item
    have hrec : ∀ r' ∈ s'.ops, ∃ r ∈ s.ops, r'.o = r.o ∧ r'.kind = r.kind ∧
        ((r' = r ∧ (r.st = .pending → r.o ∉ LC ∧ r.o ∉ LP)) ∨ (r'.st = st ∧ (r.o ∈ LC ∨ r.o ∈ LP))) := by
      intro r' hr'
      rw [hops] at hr'
      obtain ⟨r, hr, rfl⟩ := List.mem_map.mp hr'
      refine ⟨r, hr, by split <;> rfl, by split <;> rfl, ?_⟩
      split
      · rename_i hc
        rw [Bool.and_eq_true] at hc
        exact .inr ⟨rfl, (hp r.o).mp hc.1⟩
      · rename_i hc
        refine .inl ⟨rfl, fun h => not_or.mp fun hL => hc ?_⟩
        rw [(hp r.o).mpr hL, h]; rfl
    have hpend : ∀ r' ∈ s'.ops, ∃ r ∈ s.ops, r'.o = r.o ∧ r'.kind = r.kind ∧
        (r'.st = .pending → r' = r ∧ r.o ∉ LC ∧ r.o ∉ LP) := by
      intro r' hr'
      obtain ⟨r, hr, ho, hk, ⟨rfl, h⟩ | ⟨hst', -⟩⟩ := hrec r' hr'
      · exact ⟨_, hr, ho, hk, fun hp => ⟨rfl, h hp⟩⟩
      · refine ⟨r, hr, ho, hk, fun hp => ?_⟩
        rw [hst'] at hp; subst hp
        rcases hst with h | ⟨-, _, h⟩ | ⟨-, h⟩ <;> cases h
    refine ⟨?_, hi.c.resolve hC fun r' hr' => ?_, hi.p.resolve hP fun r' hr' => ?_, ?_, hitem, hdq⟩
    · intro r' hr'
      obtain ⟨r, hr, -, hk, ⟨rfl, -⟩ | ⟨hst', hL | hL⟩⟩ := hrec r' hr'
      · exact hi.kind _ hr
      · have := hi.c.sk r.o (hC ▸ List.mem_append_left _ hL) r hr rfl
        rcases hst with h | ⟨-, v, h⟩ | ⟨h, -⟩
        · simp [stKindOk, hst', h, hk, this]
        · simp [stKindOk, hst', h, hk, this]
        · rw [h] at hL; cases hL
      · have := hi.p.sk r.o (hP ▸ List.mem_append_left _ hL) r hr rfl
        rcases hst with h | ⟨h, -⟩ | ⟨-, h⟩
        · simp [stKindOk, hst', h, hk, this]
        · rw [h] at hL; cases hL
        · simp [stKindOk, hst', h, hk, this]
    · obtain ⟨r, hr, ho, hk, h⟩ := hpend r' hr'
      exact ⟨r, hr, ho, hk, fun hp => ⟨(h hp).1, (h hp).2.1⟩⟩
    · obtain ⟨r, hr, ho, hk, h⟩ := hpend r' hr'
      exact ⟨r, hr, ho, hk, fun hp => ⟨(h hp).1, (h hp).2.2⟩⟩
    · exact fun x hx => hi.seen x (hx.imp (fun h => hC ▸ List.mem_append_right _ h)
        (fun h => hP ▸ List.mem_append_right _ h))
  · cases l <;> first | (cases hedge; done) | skip
    case begin o h k =>
      obtain ⟨hnew, rfl⟩ : o ∉ u ∧ o :: u = u' := by
        simp only [monUniq] at hu
        split at hu
        · cases hu
        · rename_i hnew; exact ⟨by simpa using hnew, Option.some.inj hu⟩
      obtain ⟨hfresh, st, hops, hk, hC, hP⟩ := stepBegin_slots hs
      have hne := findOp_none_ne hfresh
      have memC : ∀ x, x ∈ slotsC s' ↔ x ∈ slotsC s ∨ (x = o ∧ st = .pending ∧ k.isCall = true) := by
        intro x; rw [hC]; split <;> simp [*]
      have memP : ∀ x, x ∈ slotsP s' ↔ x ∈ slotsP s ∨ (x = o ∧ st = .pending ∧ k = .ping) := by
        intro x; rw [hP]; split <;> simp [*]
      -- a slot already queued for `o` would have been seen: the id would not be fresh
      refine ⟨?_, hops ▸ hi.c.add hne (fun h => hnew (hi.seen o (.inl h))) memC,
        hops ▸ hi.p.add hne (fun h => hnew (hi.seen o (.inr h))) memP, ?_, hitem, hdq⟩
      · intro r hr
        rw [hops] at hr
        rcases List.mem_append.mp hr with hr | hr
        · exact hi.kind r hr
        · exact List.mem_singleton.mp hr ▸ hk
      · rintro x (hx | hx)
        · rcases (memC x).mp hx with h | ⟨rfl, -⟩
          · exact List.mem_cons_of_mem _ (hi.seen x (.inl h))
          · exact List.mem_cons_self
        · rcases (memP x).mp hx with h | ⟨rfl, -⟩
          · exact List.mem_cons_of_mem _ (hi.seen x (.inr h))
          · exact List.mem_cons_self
    case ret | cdrop =>
      obtain rfl : u = u' := Option.some.inj hu
      obtain ⟨hsub, hch⟩ := step_removes hs rfl (fun _ _ _ h => Label.noConfusion h)
      have hC : slotsC s' = slotsC s := by unfold slotsC; rw [hch, step_phase hs rfl]
      have hP : slotsP s' = slotsP s := by unfold slotsP; rw [hch]
      have hrec : ∀ r' ∈ s'.ops, ∃ r ∈ s.ops, r'.o = r.o ∧ r'.kind = r.kind ∧
          (r'.st = .pending → r' = r ∧ r.o ∉ ([] : List Nat)) :=
        fun r' hr' => ⟨r', hsub r' hr', rfl, rfl, fun _ => ⟨rfl, List.not_mem_nil⟩⟩
      exact ⟨fun r h => hi.kind r (hsub r h), hi.c.resolve (hC ▸ rfl) hrec, hi.p.resolve (hP ▸ rfl) hrec,
        fun x hx => hi.seen x (hC ▸ hP ▸ hx), hitem, hdq⟩

theorem retExpect_isSome_of_done {s : AState} {u : List Nat} (hq : QInv06 s u) (ht : TermInv s)
    (hd : s.isDone = true) {r : OpRec} (hr : r ∈ s.ops) : (s.retExpect r).isSome = true := by
  have hk := hq.kind r hr
  obtain ⟨g, hph⟩ : ∃ g, s.phase = .done g := by
    unfold isDone at hd; split at hd
    · exact ⟨_, ‹_›⟩
    · cases hd
  obtain ⟨-, hqueue, hparked⟩ := hq.dq hd
  have hslC : slotsC s = [] := by rw [slotsC, hph, hqueue]; rfl
  have hslP : slotsP s = [] := by rw [slotsP, hqueue]; rfl
  have hlatch : s.latchRes.isSome = true := by
    have := ht.latch
    unfold latchRes
    cases hl : s.latch <;> first | rfl | (rw [hl, hph] at this; cases this)
  unfold retExpect
  cases hst : r.st <;> rw [hst] at hk
  case failed e => rfl
  case pending =>
    -- nothing is queued, so this is neither a call nor a ping; nothing is parked; the latch is set
    have hc1 := hq.c.cover r hr hst
    have hc2 := hq.p.cover r hr hst
    rw [hslC] at hc1; rw [hslP] at hc2
    cases hkd : r.kind <;> rw [hkd] at hk hc1 hc2
    case send | trySend | tryForce =>
      show (if s.chan.isParked _ = true then none else some Res.ok).isSome = true
      rw [Chan.isParked, hparked]; rfl
    case halt | tryHalt | await => exact hlatch
    case call | callw | tryCall => cases hc1 rfl
    case ping => cases hc2 rfl
    case join | consume => cases hk
  case answered v => cases hkd : r.kind <;> rw [hkd] at hk <;> first | rfl | cases hk
  case pinged =>
    show (if r.kind = .ping then some Res.ok else none).isSome = true
    rw [beq_iff_eq.mp hk]; rfl
  case cancelled => cases hkd : r.kind <;> rw [hkd] at hk <;> first | rfl | cases hk
  case joining =>
    show (if s.isDone = true then _ else none : Option Res).isSome = true
    rw [if_pos hd]
    cases hkd : r.kind <;> rw [hkd] at hk <;> first | (cases s.result <;> rfl) | cases hk
  case joinNone => cases hkd : r.kind <;> rw [hkd] at hk <;> first | rfl | cases hk

structure C06qInv (c : MonCtx) (s : AState) (σ : C06St) (u : List Nat) : Prop where
  f : Flags06 c s σ
  t : TermInv s
  q : QInv06 s u

theorem c06q_step (w : Wiring) (hw : w.notifyAfterStopped = true) (c : MonCtx) {s s' : AState} {σ : C06St}
    {u u' : List Nat} {l : Label} (hi : C06qInv c s σ u) (hs : step w s l = some s')
    (hu : monUniq.step u l = some u') :
    ∃ σ', (monC06q c).step σ l = some σ' ∧ C06qInv c s' σ' u' := by
  have hbad : bad06q σ l = false := by
    cases l
    case quiescent pend =>
      show (σ.failed && !pend.all (fun o => (lookup o σ.ops).isNone)) = false
      cases hf : σ.failed
      · rfl
      · -- quiet and failed: the task is gone, so every recorded operation could return, so there is none
        obtain ⟨hq, hpend, -⟩ := stepQuiescent_cases hs
        simp only [quiet, Bool.and_eq_true, List.all_eq_true] at hq
        have hd : s.isDone = true := by
          have hfl := hf ▸ hi.f.fail
          have hq1 := hq.1.1
          cases hp : s.phase <;> simp [hp, failing, isDone] at hfl hq1 ⊢
        have hops : s.ops = [] :=
          List.eq_nil_iff_forall_not_mem.mpr fun r hr => by
            have h1 := retExpect_isSome_of_done hi.q hi.t hd hr
            rw [Option.isNone_iff_eq_none.mp (hq.2 r hr)] at h1; cases h1
        obtain rfl : pend = [] :=
          List.eq_nil_iff_forall_not_mem.mpr fun o ho => by
            have := hpend o ho; rw [findOp, hops] at this; cases this
        rfl
    all_goals rfl
  exact ⟨next06 c σ l, if_neg (by rw [hbad]; exact Bool.false_ne_true),
    ⟨flags06_step w c hi.f hs, termInv_step w hw hs hi.t, qinv06_step w hi.q hs hu⟩⟩

/-- **C06, quiescence.** On traces that never reuse an operation id: at quiescence after a failure no
    operation on the actor is pending. -/
theorem C06q_holds (w : Wiring) (hw : w.notifyAfterStopped = true) (c : MonCtx) (ls : List Label) (s : AState)
    (hr : run w (AState.init c.cfg c.h0 c.k0) ls = some s) (huniq : uniqueBegins ls = true) :
    (monC06q c).ok ls = true :=
  ok_of_run_lift_wf (monC06q c) monUniq w (C06qInv c) (fun _ _ _ _ _ _ hi hs hu => c06q_step w hw c hi hs hu) _
    ⟨(c06_init c).f, termInv_init _ _ _, qinv06_init _ _ _⟩ ls s hr huniq

/-- the hypothesis is satisfiable and the monitor non-trivial -/
example : uniqueBegins c06Example = true := by decide
example : (monC06q c06Ctx).ok c06Example = true := by decide
example : (monC06q c06Ctx).ok [ .cbBegin .started, .cbEnd .started true, .begin 1 0 (.call 8), .cancel,
    .quiescent [1] ] = false := by decide
example : uniqueBegins [ .begin 1 0 (.call 8), .cdrop 1, .begin 1 0 (.send 8) ] = false := by decide

/-- Why fresh ids are needed: the model lets a dropped call's id be reused by a send, which the late reply
    then "answers" — that send can never return (`Props/C06Current.lean` shows the run). -/
def c06Reuse : List Label :=
  [ .cbBegin .started, .cbEnd .started true, .begin 1 0 (.call 8), .cdrop 1, .begin 1 0 (.send 9),
    .cbBegin (.handle 8), .cbEnd (.handle 8) true, .cancel, .quiescent [1] ]
example : (monC06q c06Ctx).ok c06Reuse = false := by decide
example : uniqueBegins c06Reuse = false := by decide

end Hannibal
