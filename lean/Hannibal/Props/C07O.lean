import Hannibal.Proofs.C07OOrder
import Hannibal.Proofs.C07OTimers
import Hannibal.Proofs.Run
namespace Hannibal
open AState

structure C07oInv (c : MonCtx) (s : AState) (σ : C07oSt) (g : Wf01St) : Prop where
  o : Ord07 c s σ g
  t : Tim07 c s σ

theorem c07o_step (w : Wiring) (hw : WellWired05 w) (c : MonCtx) {s s' : AState} {σ : C07oSt} {g g' : Wf01St}
    {l : Label} (hi : C07oInv c s σ g) (hs : step w s l = some s') (hg : monWf01.step g l = some g') :
    ∃ σ', (monC07o c).step σ l = some σ' ∧ C07oInv c s' σ' g' := by
  obtain ⟨hb1, ho⟩ := ord07_step w c hi.o hs hg
  obtain ⟨hb2, ht⟩ := tim07_step w hw c hi.o.cfg hi.o.rst hi.t hs
  exact ⟨next07o σ l, by rw [mon07o_eq, hb2, hb1]; rfl, ⟨ho, ht⟩⟩

theorem c07o_init (c : MonCtx) :
    C07oInv c (AState.init c.cfg c.h0 c.k0) (monC07o c).init monWf01.init :=
  ⟨ord07_init c, tim07_init c⟩

/-- C07 (order, and the ignored restart): for every wiring in which strong handle kinds own both channel
closures and weak kinds own none (and need something to upgrade), every run of the actor model whose
labels carry fresh message numbers and operation ids (`wf01`) is accepted by `monC07o`:
 (i)  the handler of a message whose submission began after n accepted restart requests (from a handle
      or from the context, whenever they were accepted: before `started`, inside a callback, while an
      earlier restart is still being served) runs in incarnation n + 1 of a restartable spawn — the
      mailbox is FIFO and each dequeued restart request gives exactly one `started` — and in incarnation 1
      of a spawn that is not restartable; no handler begins after a failure;
 (ii) a non-restartable plain actor that received a restart request keeps its repeating timers: while a
      strong handle is held, no stop was issued and it has neither failed nor terminated, no `interval`
      / `interval_with` timer ends.
Freshness of message numbers is needed (`c07o_reuse_witness`), and so is the wiring hypothesis
(`c07o_wiring_witness`). -/
theorem C07o_holds (w : Wiring) (hw : WellWired05 w) (c : MonCtx) (ls : List Label) (s : AState)
    (hr : run w (AState.init c.cfg c.h0 c.k0) ls = some s) (hwf : wf01 ls = true) :
    (monC07o c).ok ls = true :=
  ok_of_run_lift_wf (monC07o c) monWf01 w (C07oInv c)
    (fun _ _ _ _ _ _ hi hs hg => c07o_step w hw c hi hs hg) _ (c07o_init c) ls s hr hwf

def c07oCfg : Cfg := { cap := none, strat := .only, timeout := none, failOnTimeout := false, stream := false }
def c07oCtx : MonCtx := { cfg := c07oCfg, h0 := 0, k0 := .addr, prompt := true }
def c07oCfgN : Cfg := { cap := none, strat := .non, timeout := none, failOnTimeout := false, stream := false }
def c07oCtxN : MonCtx := { cfg := c07oCfgN, h0 := 0, k0 := .addr, prompt := true }

/-- restart requests before `started`, from inside `started`, from inside `stopped` of a restart being
    served, and from outside while a handler runs; every message is handled by the incarnation that follows
    exactly the requests accepted before its submission -/
def c07oExample : List Label :=
  [ .restartReq 0 true, .begin 0 0 (.send 1), .cbBegin .started, .ctxRestart true, .begin 1 0 (.call 2),
    .cbEnd .started true, .tDeq, .cbBegin .stopped, .ctxRestart true, .begin 2 0 (.send 3), .cbEnd .stopped true,
    .cbBegin .started, .cbEnd .started true, .cbBegin (.handle 1), .restartReq 0 true, .cbEnd (.handle 1) true,
    .tDeq, .cbBegin .stopped, .cbEnd .stopped true, .cbBegin .started, .begin 3 0 (.send 4), .cbEnd .started true,
    .cbBegin (.handle 2), .cbEnd (.handle 2) true, .tDeq, .cbBegin .stopped, .cbEnd .stopped true,
    .cbBegin .started, .cbEnd .started true, .cbBegin (.handle 3), .cbEnd (.handle 3) true, .tDeq,
    .cbBegin .stopped, .cbEnd .stopped true, .cbBegin .started, .cbEnd .started true, .cbBegin (.handle 4),
    .cbEnd (.handle 4) true ]
example : (monC07o c07oCtx).ok c07oExample = true := by decide
example : wf01 c07oExample = true := by decide

/-- a non-restartable spawn ignores the request and keeps its `interval` timer going -/
def c07oExampleN : List Label :=
  [ .cbBegin .started, .ctxTimer 1 .interval 5, .cbEnd .started true, .timerArm 1 5, .restartReq 0 true,
    .begin 0 0 (.send 1), .tDeq, .cbBegin (.handle 1), .cbEnd (.handle 1) true, .time 5, .timerArm 1 10,
    .tickBegin 1 2, .cbBegin (.handle 2), .cbEnd (.handle 2) true ]
example : (monC07o c07oCtxN).ok c07oExampleN = true := by decide
example : wf01 c07oExampleN = true := by decide

/-- rejected: a message submitted after an accepted restart request is handled by the old incarnation -/
example : (monC07o c07oCtx).ok
    [ .cbBegin .started, .cbEnd .started true, .restartReq 0 true, .begin 0 0 (.send 1),
      .cbBegin (.handle 1) ] = false := by decide
/-- rejected: a non-restartable spawn runs a second `started` before the message -/
example : (monC07o c07oCtxN).ok
    [ .cbBegin .started, .cbEnd .started true, .restartReq 0 true, .begin 0 0 (.send 1), .tDeq, .cbBegin .stopped,
      .cbEnd .stopped true, .cbBegin .started, .cbEnd .started true, .cbBegin (.handle 1) ] = false := by decide
/-- rejected: the ignored restart request ends the `interval` timer all the same -/
example : (monC07o c07oCtxN).ok (c07oExampleN.take 7 ++ [ .timerEnd 1 ]) = false := by decide
/-- rejected: a handler after a failure -/
example : (monC07o c07oCtx).ok
    [ .cbBegin .started, .begin 0 0 (.send 1), .cbEnd .started false, .cbBegin (.handle 1) ] = false := by decide

/-- Why fresh message numbers: the same number submitted before and after a restart request. -/
def c07o_reuse_witness : List Label :=
  [ .cbBegin .started, .cbEnd .started true, .begin 0 0 (.send 1), .restartReq 0 true, .begin 1 0 (.send 1),
    .cbBegin (.handle 1) ]
example : (monC07o c07oCtx).ok c07o_reuse_witness = false := by decide
example : wf01 c07o_reuse_witness = false := by decide

/-- Why the wiring hypothesis: if `Sender` owned only the waiting closure, a non-restartable actor held by a
    Sender alone would lose its `interval` timer (its weak sender no longer upgrades). -/
def c07o_wiring_witness : List Label :=
  [ .mk 0 1 .sender, .cbBegin .started, .ctxTimer 1 .interval 5, .cbEnd .started true, .timerArm 1 5,
    .restartReq 0 true, .drop 0, .tDeq, .time 5, .timerEnd 1 ]
def senderTxOnly07 (w : Wiring) : Wiring :=
  { w with holds := fun k => if k = .sender then [.tx] else w.holds k }
example : (monC07o c07oCtxN).ok c07o_wiring_witness = false := by decide
example : wf01 c07o_wiring_witness = true := by decide

end Hannibal
