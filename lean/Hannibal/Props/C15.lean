import Hannibal.Proofs.Timers
import Hannibal.Proofs.Run
import Hannibal.Monitor.C15
import Hannibal.Generated.Wiring
/-
  C15 — every strong handle kind keeps the actor fully functional.

  For every wiring in which each strong handle kind (Addr, OwningAddr, Sender,
  Caller) owns both halves of the channel, every run of the actor model is
  accepted by `monC15`: while any strong handle exists, `Context::stop` /
  `restart` succeed, every weak handle upgrades, `weak_address` is `Some`, and
  `interval` timers of the running incarnation do not end.
-/
namespace Hannibal
open AState

/-- The monitor's table of registered timers against the model's: a timer registered with kind `K` has that
    kind in the model, and where the obligation `P` applies its task is not over. -/
def TimOk (K : TimerKind) (s : AState) (tm : List (Nat × TimerKind)) (P : Nat → Prop) : Prop :=
  ∀ t, lookup t tm = some K → ∀ x, s.findTimer t = some x → x.kind = K ∧ (P t → ¬ x.Dead)

theorem TimOk.nil {K s P} : TimOk K s [] P := nofun

theorem TimOk.mono {K s s' tm tm' P P'} (h : TimOk K s tm P) (ht : s'.timers = s.timers)
    (htm : ∀ t, lookup t tm' = some K → lookup t tm = some K) (hP : ∀ t, P' t → P t) : TimOk K s' tm' P' := by
  intro t hl x hx
  rw [findTimer_of_timers_eq ht] at hx
  obtain ⟨hk, hd⟩ := h t (htm t hl) x hx
  exact ⟨hk, fun hp => hd (hP t hp)⟩

theorem TimOk.add {K s tm P} (h : TimOk K s tm P) {t0 : Nat} {k : TimerKind} {d : Nat}
    (hfr : s.timers.any (fun x => x.id == t0) = false) :
    TimOk K { s with timers := s.timers ++ [{ id := t0, kind := k, d, st := .spawned }] } ((t0, k) :: tm) P := by
  intro t hl x hx
  unfold findTimer at hx
  simp only [List.find?_append] at hx
  by_cases hte : t0 = t
  · subst hte
    have hnone : s.timers.find? (fun y => y.id == t0) = none :=
      List.find?_eq_none.mpr fun y hy => by simpa using List.any_eq_false.mp hfr y hy
    rw [hnone] at hx
    simp at hx
    rw [lookup_cons_eq] at hl
    obtain rfl := Option.some.inj hl
    subst hx
    exact ⟨rfl, fun _ hd => by rcases hd with hd | hd | hd <;> cases hd⟩
  · rw [lookup_cons_ne hte] at hl
    cases hf : s.timers.find? (fun y => y.id == t) with
    | none => simp [hf, hte] at hx
    | some y =>
      simp [hf] at hx; subst hx
      exact h t hl y hf

theorem TimOk.set {K s tm P} (h : TimOk K s tm P) (s1 : AState) (h1 : s1.timers = s.timers) (t0 : Nat)
    (st0 : TimerSt) (P' : Nat → Prop) (hP : ∀ t, t ≠ t0 → P' t → P t)
    (hst : lookup t0 tm = some K → ∀ x0, s.findTimer t0 = some x0 → x0.kind = K → P' t0 →
      st0 ≠ .dead ∧ st0 ≠ .deadHolding ∧ st0 ≠ .ended) :
    TimOk K (s1.setTimer t0 st0) tm P' := by
  intro t hl x hx
  by_cases hte : t = t0
  · subst hte
    cases hf : s.findTimer t with
    | none =>
      have hn : s1.findTimer t = none := (findTimer_of_timers_eq h1 t).trans hf
      rw [findTimer_none_iff] at hn
      rw [findTimer_none_iff.mpr (by rw [setTimer_ids]; exact hn)] at hx
      cases hx
    | some x0 =>
      rw [findTimer_setTimer_eq ((findTimer_of_timers_eq h1 t).trans hf)] at hx
      obtain rfl := Option.some.inj hx
      obtain ⟨hk, -⟩ := h t hl x0 hf
      refine ⟨hk, fun hp hd => ?_⟩
      obtain ⟨n1, n2, n3⟩ := hst hl x0 hf hk hp
      rcases hd with hd | hd | hd
      · exact n1 hd
      · exact n2 hd
      · exact n3 hd
  · rw [findTimer_setTimer_ne hte, findTimer_of_timers_eq h1] at hx
    obtain ⟨hk, hd⟩ := h t hl x hx
    exact ⟨hk, fun hp => hd (hP t hte hp)⟩

structure C15Inv (s : AState) (σ : C15St) : Prop where
  h : HInv s σ.hold
  rx : RxInv s
  term : σ.terminated = s.isDone
  tim : σ.terminated = false → TimOk .interval s σ.timers (fun _ => True)

theorem next15_hold (σ : C15St) (l : Label) : (next15 σ l).hold = σ.hold.step l := by
  cases l <;> first | rfl | (rename_i cb; cases cb <;> rfl) | (rename_i cb ok; cases cb <;> rfl)

theorem next15_terminated (σ : C15St) (l : Label) :
    (next15 σ l).terminated = (if l.terminates then true else σ.terminated) := by
  cases l <;> first | rfl | (rename_i cb; cases cb <;> rfl) | (rename_i cb ok; cases cb <;> rfl)

theorem c15_step (w : Wiring) (hw : WellWired15 w) (c : MonCtx) {s s' : AState} {σ : C15St} {l : Label}
    (hi : C15Inv s σ) (hs : step w s l = some s') :
    ∃ σ', (monC15 c).step σ l = some σ' ∧ C15Inv s' σ' := by
  obtain ⟨hd1, hd2⟩ := step_isDone w hs
  have hlive : σ.hold.strongHeld = true → s.isDone = false → ∀ req, (s.reqOk w req && s.chan.rx) = true := by
    intro hh hnd req
    unfold HoldSt.strongHeld at hh
    rw [hi.h.handles] at hh
    rw [reqOk_of_strong hw hh req]
    rcases hi.rx with h | h
    · rw [hnd] at h; cases h
    · rw [h]; rfl
  have hbad : (σ.hold.strongHeld && bad15 σ l) = false := by
    cases hh : σ.hold.strongHeld
    · rfl
    rw [Bool.true_and]
    cases l <;> first | rfl | skip
    case ctxStop ok =>
      cases ok
      · obtain ⟨hcb, ⟨h, -⟩ | ⟨-, hno, -⟩⟩ := stepCtxSignal_cases hs
        · cases h
        · rw [hlive hh (inCallback_not_done hcb)] at hno; cases hno
      · rfl
    case ctxRestart ok =>
      cases ok
      · obtain ⟨hcb, ⟨h, -⟩ | ⟨-, hno, -⟩⟩ := stepCtxSignal_cases hs
        · cases h
        · rw [hlive hh (inCallback_not_done hcb)] at hno; cases hno
      · rfl
    case upgrade h h' =>
      cases h'
      · obtain ⟨k, ks, -, -, ⟨n, hn, -⟩ | ⟨-, hno, -⟩⟩ := stepUpgrade_cases (h' := none) hs
        · cases hn
        · unfold HoldSt.strongHeld at hh
          rw [hi.h.handles] at hh
          rw [reqOk_of_strong hw hh] at hno; cases hno
      · rfl
    case ctxWeak k h' =>
      cases k <;> cases h' <;> first | rfl | skip
      obtain ⟨-, ⟨n, hn, -⟩ | ⟨-, -, hno, -⟩⟩ := stepCtxWeak_cases (k := .weakAddr) (h := none) hs
      · cases hn
      · unfold HoldSt.strongHeld at hh
        rw [hi.h.handles] at hh
        rw [reqOk_of_strong hw hh] at hno; cases hno
    case timerEnd t =>
      show (!σ.terminated && lookup t σ.timers == some .interval) = false
      cases ht : σ.terminated
      case true => rfl
      cases hl : lookup t σ.timers == some .interval
      case false => rfl
      -- an `interval` task that is not over ends only when its upgrade or its send fails
      exfalso
      obtain ⟨x, hx, -, hst⟩ := stepTimerEnd_cases hs
      obtain ⟨hk, hnd⟩ := hi.tim ht t (beq_iff_eq.mp hl) x hx
      rcases hst with h | h | ⟨due, -, -, -, hno⟩ | ⟨-, hk', -⟩
      · exact hnd trivial (.inl h)
      · exact hnd trivial (.inr (.inl h))
      · rw [hlive hh (hi.term ▸ ht)] at hno; cases hno
      · rw [hk] at hk'; cases hk'
  have hterm : (next15 σ l).terminated = s'.isDone := by
    rw [next15_terminated]
    cases ht : l.terminates
    · exact hi.term.trans (hd2 ht).symm
    · exact (hd1 ht).symm
  refine ⟨next15 σ l, by show (if _ then none else _) = _; rw [hbad]; rfl,
    next15_hold σ l ▸ hinv_step hi.h hs, rxInv_step hs hi.rx, hterm, fun hnt => ?_⟩
  have hnt0 : σ.terminated = false ∧ l.terminates = false := by
    rw [next15_terminated] at hnt
    cases ht : l.terminates
    · rw [ht] at hnt; exact ⟨hnt, rfl⟩
    · rw [ht] at hnt; cases hnt
  have h0 := hi.tim hnt0.1
  have same : s'.timers = s.timers → TimOk .interval s' σ.timers (fun _ => True) :=
    fun h => h0.mono h (fun _ h => h) (fun _ h => h)
  cases l
  case ctxTimer t0 k d => obtain ⟨-, hfr, rfl⟩ := stepCtxTimer_cases hs; exact h0.add hfr
  case timerArm t0 due =>
    obtain ⟨x, -, -, ⟨-, rfl⟩ | ⟨old, -, -, -, -, -, rfl⟩ | ⟨-, -, -, rfl⟩⟩ := stepTimerArm_cases hs <;>
      exact h0.set _ rfl t0 _ _ (fun _ _ h => h) (fun _ _ _ _ _ => ⟨nofun, nofun, nofun⟩)
  case timerEnd t0 =>
    -- the table forgets the timer that ended
    obtain ⟨x, -, rfl, -⟩ := stepTimerEnd_cases hs
    exact (h0.mono rfl (fun _ h => (lookup_filter_ne h).2) (fun _ h => h)).set _ rfl t0 _ _ (fun _ _ h => h)
      (fun hl => absurd rfl (lookup_filter_ne hl).1)
  case fire t0 m =>
    -- a closure never belongs to an `interval` timer
    obtain ⟨x, due, hx, -, -, hc⟩ := stepFire_cases hs
    have hk : ∀ x0, s.findTimer t0 = some x0 → x0.kind ≠ .interval := by
      intro x0 hx0 hk0
      obtain rfl := Option.some.inj (hx.symm.trans hx0)
      rw [hk0] at hc
      obtain ⟨h, -⟩ | ⟨n, h | h, -⟩ := hc <;> cases h
    obtain ⟨-, -, rfl⟩ | ⟨n, -, -, ⟨-, -, rfl⟩ | ⟨-, rfl⟩⟩ := hc <;>
      exact h0.set _ rfl t0 _ _ (fun _ _ h => h) (fun _ x0 hx0 hk0 _ => absurd hk0 (hk x0 hx0))
  case cbBegin cb => cases cb <;> first | exact same (step_timers_same hs rfl) | exact .nil
  case cbEnd cb ok => cases cb <;> first | exact same (step_timers_same hs rfl) | exact .nil
  case cancel | taskPanic | taskDone => cases hnt0.2
  all_goals exact same (step_timers_same hs rfl)

theorem c15_init (c : MonCtx) : C15Inv (AState.init c.cfg c.h0 c.k0) (monC15 c).init :=
  ⟨⟨rfl, nofun⟩, rxInv_init _ _ _, rfl, fun _ => .nil⟩

/-- **C15.** With every strong handle kind owning both halves of the channel, in every run of
    the model — all conversion/drop programs, any combination of strong handle kinds left
    alive, self-stop, self-restart, timers, weak upgrades, all interleavings — while some
    strong handle exists: `Context::stop` / `restart` succeed, weak handles upgrade,
    `weak_address` is `Some`, and `interval` timers of the running incarnation keep going. -/
theorem C15_holds (w : Wiring) (hw : WellWired15 w) (c : MonCtx) (ls : List Label) (s : AState)
    (hr : run w (AState.init c.cfg c.h0 c.k0) ls = some s) : (monC15 c).ok ls = true :=
  ok_of_run_lift (monC15 c) w C15Inv (fun _ _ _ _ hi hs => c15_step w hw c hi hs) _ (c15_init c) ls s hr

/-- Under the wiring in which `Caller` owns only the waiting half the property fails:
    only a Caller is left, a handler calls `ctx.stop()` and is refused. -/
def c15Witness : List Label :=
  [ .mk 0 1 .caller, .drop 0, .cbBegin .started, .cbEnd .started true, .begin 0 1 (.callw 1),
    .cbBegin (.handle 1), .ctxStop false ]

def callerTxOnly (w : Wiring) : Wiring :=
  { w with holds := fun k => if k = .caller then [.tx] else w.holds k }

def c15Cfg : Cfg := { cap := none, strat := .only, timeout := none, failOnTimeout := false, stream := false }

example : (run (callerTxOnly Wiring.current) (AState.init c15Cfg 0 .addr) c15Witness).isSome = true := by decide
example : (monC15 { cfg := c15Cfg, h0 := 0, k0 := .addr, prompt := true }).ok c15Witness = false := by decide

end Hannibal
