import Hannibal.Proofs.Latch
import Hannibal.Proofs.Run
import Hannibal.Monitor.C14
import Hannibal.Generated.Wiring
/-
  C14 — stopped() / running() tell the truth without anyone awaiting the actor.

  For every wiring whose liveness queries answer from the latch itself
  (`livenessQuery = truthful`) and whose loop notifies after `stopped()`, every
  run of the actor model is accepted by the C14 monitor: every query on every
  handle answers "stopped" exactly from the moment the actor's task has ended.
-/
namespace Hannibal
open AState

def WellWired14 (w : Wiring) : Prop := w.livenessQuery = .truthful ∧ w.notifyAfterStopped = true

instance (w : Wiring) : Decidable (WellWired14 w) := by unfold WellWired14; infer_instance

structure C14Inv (s : AState) (σ : C14St) : Prop where
  done : DoneInv s
  term : σ.terminated = s.isDone

theorem stepQuery_truthful {w s h b s'} (hw : w.livenessQuery = .truthful)
    (hs : stepQuery w s h b = some s') : b = s.latchSet ∧ s' = s := by
  refine ⟨?_, stepQuery_cases hs⟩
  unfold stepQuery at hs
  simp only [hw] at hs
  split at hs <;> first | (cases hs; done) | skip
  all_goals
    split at hs
    · rename_i hb; exact beq_iff_eq.mp hb
    · cases hs

theorem c14_step (w : Wiring) (hw : WellWired14 w) (c : MonCtx) {s s' : AState} {σ : C14St} {l : Label}
    (hi : C14Inv s σ) (hs : step w s l = some s') :
    ∃ σ', (monC14 c).step σ l = some σ' ∧ C14Inv s' σ' := by
  have hd := doneInv_step w hw.2 hs hi.done
  obtain ⟨h1, h2⟩ := step_isDone w hs
  cases l
  case query h b =>
    -- the answer is read from the latch, which has left `pending` exactly when the task is over
    obtain ⟨rfl, rfl⟩ := stepQuery_truthful hw.1 hs
    refine ⟨σ, ?_, hi⟩
    have : s'.latchSet = σ.terminated := by
      rw [hi.term]
      have := hi.done
      unfold DoneInv at this
      unfold latchSet
      cases hl : s'.latch <;> cases hdn : s'.isDone <;> simp_all
    simp only [monC14, this, beq_self_eq_true, if_true]
  case cancel | taskPanic | taskDone => exact ⟨{ σ with terminated := true }, rfl, hd, (h1 rfl).symm⟩
  all_goals exact ⟨σ, rfl, hd, hi.term.trans (h2 rfl).symm⟩

/-- **C14.** Every query on every handle, in every run (any program, interleaving,
    termination cause, whether or not anybody ever awaited the address), answers
    not-stopped until the actor's task has ended and stopped from then on. -/
theorem C14_holds (w : Wiring) (hw : WellWired14 w) (c : MonCtx) (ls : List Label) (s : AState)
    (hr : run w (AState.init c.cfg c.h0 c.k0) ls = some s) : (monC14 c).ok ls = true :=
  ok_of_run_lift (monC14 c) w C14Inv (fun _ _ _ _ hi hs => c14_step w hw c hi hs) _
    ⟨doneInv_init _ _ _, rfl⟩ ls s hr

/-- The same model under the `peekOnly` wiring (what `Shared::peek` does) violates the
    property: spawn, stop, let the loop finish without anyone awaiting, query ⇒ "running".
    This concrete run is the replay program for the implementation. -/
def c14Witness : List Label :=
  [ .stopReq 0 true, .cbBegin .started, .cbEnd .started true, .tDeq, .cbBegin .stopped,
    .cbEnd .stopped true, .taskDone, .query 0 false ]

def c14Cfg : Cfg := { cap := none, strat := .only, timeout := none, failOnTimeout := false, stream := false }

def peekWiring (w : Wiring) : Wiring := { w with livenessQuery := .peekOnly }

example : (run (peekWiring Wiring.current) (AState.init c14Cfg 0 .addr) c14Witness).isSome = true := by decide
example : (monC14 { cfg := c14Cfg, h0 := 0, k0 := .addr, prompt := true }).ok c14Witness = false := by decide

end Hannibal
