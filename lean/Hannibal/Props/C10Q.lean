import Hannibal.Proofs.C10QQueue
import Hannibal.Proofs.Timers
import Hannibal.Proofs.Run
import Hannibal.Monitor.C10
/-
  C10q (every tick taken up is covered by a wake-up of its timer; no timer task is left at quiescence):
  every run of the actor model is accepted by `monC10q`.  No wiring hypothesis, no trace hypothesis: the
  invariant is stated per timer id and never needs the ids of the monitor's tables to be distinct.
-/
namespace Hannibal
open AState

def cntOf (l : List (Nat × Nat)) (t : Nat) : Nat := (lookup t l).getD 0

theorem lookup_map_bump_self (t : Nat) : ∀ (l : List (Nat × Nat)),
    lookup t (l.map (fun p => if p.1 == t then (p.1, p.2 + 1) else p)) = (lookup t l).map (· + 1)
  | [] => rfl
  | (k, v) :: rest => by
    have ih := lookup_map_bump_self t rest
    cases hk : (k == t)
    · simp only [List.map_cons, hk, Bool.false_eq_true, if_false, lookup]
      exact ih
    · simp only [List.map_cons, hk, if_true, lookup]
      simp

theorem lookup_map_bump_ne {t t' : Nat} (h : t' ≠ t) : ∀ (l : List (Nat × Nat)),
    lookup t' (l.map (fun p => if p.1 == t then (p.1, p.2 + 1) else p)) = lookup t' l
  | [] => rfl
  | (k, v) :: rest => by
    have ih := lookup_map_bump_ne h rest
    cases hk : (k == t)
    · simp only [List.map_cons, hk, Bool.false_eq_true, if_false, lookup]
      cases hk2 : (k == t')
      · simp only [Bool.false_eq_true, if_false]; exact ih
      · simp
    · have hk' : (k == t') = false := by
        simp at hk ⊢; intro e; exact h (e.symm.trans hk)
      simp only [List.map_cons, hk, if_true, lookup, hk', Bool.false_eq_true, if_false]
      exact ih

theorem cntOf_bump_self (l : List (Nat × Nat)) (t : Nat) : cntOf (bump l t) t = cntOf l t + 1 := by
  unfold cntOf bump
  by_cases ha : l.any (fun p => p.1 == t) = true
  · simp only [ha, if_true, lookup_map_bump_self]
    have := lookup_some_of_any t l ha
    cases hl : lookup t l with
    | none => simp [hl] at this
    | some v => simp
  · have ha' : l.any (fun p => p.1 == t) = false := by
      cases hh : l.any (fun p => p.1 == t)
      · rfl
      · exact absurd hh ha
    simp only [ha', lookup_none_of_not_any t l ha']
    simp [lookup]

theorem cntOf_bump_ne (l : List (Nat × Nat)) {t t' : Nat} (h : t' ≠ t) : cntOf (bump l t) t' = cntOf l t' := by
  unfold cntOf bump
  split
  · rw [lookup_map_bump_ne h]
  · have hk' : (t == t') = false := by simp; exact fun e => h e.symm
    simp [lookup, hk']

/-- the timer task never went to sleep (or can no longer wake up) -/
def unarmed : TimerSt → Bool
  | .sleeping _ | .sending => false
  | _ => true

def allUnarmed (s : AState) (t : Nat) : Bool := s.timers.all (fun x => x.id != t || unarmed x.st)

def liveT (s : AState) (t : Nat) : Bool := s.timers.any (fun x => x.id == t && x.st != .ended)

structure C10qInv (s : AState) (σ : C10qSt) : Prop where
  live : ∀ t ∈ σ.live, liveT s t = true
  cov : ∀ t, cntOf σ.ticks t + tickCnt t s + 1 ≤ cntOf σ.arms t ∨
    (cntOf σ.ticks t + tickCnt t s = 0 ∧ allUnarmed s t = true)

theorem liveT_pres {w : Wiring} {s s' : AState} {l : Label} (hs : step w s l = some s') (t : Nat)
    (hl : l ≠ .timerEnd t) (h : liveT s t = true) : liveT s' t = true := by
  by_cases hct : ∃ t0 k d, l = .ctxTimer t0 k d
  · obtain ⟨t0, k, d, rfl⟩ := hct
    obtain ⟨-, -, rfl⟩ := stepCtxTimer_cases hs
    unfold liveT at *
    rw [List.any_append, h]; rfl
  · obtain ⟨f, hf, hfx⟩ := step_timers_map hs (fun t0 k d e => hct ⟨t0, k, d, e⟩)
    unfold liveT at *
    rw [hf]
    obtain ⟨x, hx, hp⟩ := List.any_eq_true.mp h
    refine List.any_eq_true.mpr ⟨f x, List.mem_map.mpr ⟨x, hx, rfl⟩, ?_⟩
    obtain ⟨hid, hmv⟩ := hfx x
    simp only [Bool.and_eq_true, beq_iff_eq, bne_iff_ne, ne_eq] at hp ⊢
    refine ⟨by rw [hid]; exact hp.1, fun he => ?_⟩
    -- only `timerEnd` of this very timer ends it
    rcases hmv with hmv | ⟨-, hmv⟩ | ⟨hmv, -⟩ | ⟨-, hmv⟩
    · exact hp.2 (hmv.trans he)
    · exact hmv he
    · exact hl (hp.1 ▸ hmv)
    · rw [he] at hmv; rcases hmv with hmv | hmv <;> cases hmv

theorem allUnarmed_pres {w : Wiring} {s s' : AState} {l : Label} (hs : step w s l = some s') (t : Nat)
    (hl : ∀ due, l ≠ .timerArm t due) (h : allUnarmed s t = true) : allUnarmed s' t = true := by
  by_cases hct : ∃ t0 k d, l = .ctxTimer t0 k d
  · obtain ⟨t0, k, d, rfl⟩ := hct
    obtain ⟨-, -, rfl⟩ := stepCtxTimer_cases hs
    unfold allUnarmed at *
    rw [List.all_append, h]; simp [unarmed]
  · obtain ⟨f, hf, hfx⟩ := step_timers_map hs (fun t0 k d e => hct ⟨t0, k, d, e⟩)
    unfold allUnarmed at *
    rw [hf]
    refine List.all_eq_true.mpr fun y hy => ?_
    obtain ⟨x, hx, rfl⟩ := List.mem_map.mp hy
    have hx' := List.all_eq_true.mp h x hx
    obtain ⟨hid, hmv⟩ := hfx x
    simp only [Bool.or_eq_true, bne_iff_ne, ne_eq] at hx' ⊢
    rw [hid]
    by_cases hxt : x.id = t
    · have hu : unarmed x.st = true := hx'.resolve_left (fun h1 => h1 hxt)
      right
      rcases hmv with hmv | ⟨⟨due, hmv⟩ | ⟨m, hmv⟩, -⟩ | ⟨-, hmv⟩ | ⟨-, hmv | hmv⟩
      · rw [← hmv]; exact hu
      · exact absurd (hxt ▸ hmv) (hl due)
      · -- only a sleeping timer fires
        subst hmv
        obtain ⟨x0, due, hx0, hst, -⟩ := stepFire_cases hs
        obtain ⟨hmem, hid0⟩ := findTimer_mem hx0
        have := List.all_eq_true.mp h x0 hmem
        simp [hid0, hxt, hst, unarmed] at this
      all_goals rw [hmv]; rfl
    · exact .inl hxt

theorem cov_pres {w : Wiring} {s s' : AState} {l : Label} (hs : step w s l = some s') (t : Nat)
    (hl : ∀ due, l ≠ .timerArm t due) (a b : Nat)
    (h : b + tickCnt t s + 1 ≤ a ∨ (b + tickCnt t s = 0 ∧ allUnarmed s t = true)) :
    b + tickCnt t s' + 1 ≤ a ∨ (b + tickCnt t s' = 0 ∧ allUnarmed s' t = true) := by
  have hc := step_tickCnt t hs
  have hz : armIncr t l = 0 := by
    cases l <;> simp [armIncr]
    case timerArm t0 due => intro e; exact hl due (by rw [e])
  rcases h with h | ⟨h1, h2⟩
  · left; omega
  · right; exact ⟨by omega, allUnarmed_pres hs t hl h2⟩

/-- labels that touch none of the monitor's tables -/
def Label.plain10q : Label → Bool
  | .ctxTimer _ _ _ | .timerArm _ _ | .timerEnd _ | .tickBegin _ _ | .quiescent _ => false
  | _ => true

theorem mon10q_plain (c : MonCtx) (σ : C10qSt) (l : Label) (hl : l.plain10q = true) :
    ∃ σ', (monC10q c).step σ l = some σ' ∧ σ'.live = σ.live ∧ σ'.arms = σ.arms ∧ σ'.ticks = σ.ticks := by
  cases l <;> first | (cases hl; done) | exact ⟨_, rfl, rfl, rfl, rfl⟩

theorem c10q_step (w : Wiring) (c : MonCtx) {s s' : AState} {σ : C10qSt} {l : Label}
    (hi : C10qInv s σ) (hs : step w s l = some s') :
    ∃ σ', (monC10q c).step σ l = some σ' ∧ C10qInv s' σ' := by
  by_cases hp : l.plain10q = true
  · obtain ⟨σ', hm, h1, h2, h3⟩ := mon10q_plain c σ l hp
    refine ⟨σ', hm, ⟨fun t ht => ?_, fun t => ?_⟩⟩
    · exact liveT_pres hs t (by rintro rfl; cases hp) (hi.live t (h1 ▸ ht))
    · rw [h2, h3]
      exact cov_pres hs t (by rintro due rfl; cases hp) _ _ (hi.cov t)
  · cases l <;> first | exact absurd rfl hp | skip
    case ctxTimer t k d =>
      refine ⟨{ σ with live := t :: σ.live }, rfl, ⟨fun t0 ht0 => ?_, fun t0 => ?_⟩⟩
      · rcases List.mem_cons.mp ht0 with rfl | ht0
        · obtain ⟨-, -, rfl⟩ := stepCtxTimer_cases hs
          unfold liveT
          rw [List.any_append]
          simp
        · exact liveT_pres hs t0 nofun (hi.live t0 ht0)
      · exact cov_pres hs t0 nofun _ _ (hi.cov t0)
    case timerArm t due =>
      refine ⟨{ σ with arms := bump σ.arms t }, rfl, ⟨fun t0 ht0 => ?_, fun t0 => ?_⟩⟩
      · exact liveT_pres hs t0 nofun (hi.live t0 ht0)
      · by_cases ht : t0 = t
        · subst ht
          simp only [cntOf_bump_self]
          have hc := step_tickCnt t0 hs
          simp only [armIncr, if_true] at hc
          rcases hi.cov t0 with h | ⟨h1, h2⟩
          · left; omega
          · -- no sleep so far: this is the first one, and it sends nothing
            left
            obtain ⟨x, hx, -, hcase⟩ := stepTimerArm_cases hs
            obtain ⟨hmem, hid⟩ := findTimer_mem hx
            have hu := List.all_eq_true.mp h2 x hmem
            simp only [hid, bne_self_eq_false, Bool.false_or] at hu
            rcases hcase with ⟨-, rfl⟩ | ⟨old, h, -⟩ | ⟨h, -⟩
            · have : tickCnt t0 (s.setTimer t0 (.sleeping due)) = tickCnt t0 s := rfl
              omega
            · rw [h] at hu; cases hu
            · rw [h] at hu; cases hu
        · simp only [cntOf_bump_ne _ ht]
          exact cov_pres hs t0 (fun due' e => ht (Label.timerArm.inj e).1.symm) _ _ (hi.cov t0)
    case timerEnd t =>
      refine ⟨{ σ with live := σ.live.filter (fun x => x != t) }, rfl, ⟨fun t0 ht0 => ?_, fun t0 => ?_⟩⟩
      · obtain ⟨hm, hne⟩ := List.mem_filter.mp ht0
        exact liveT_pres hs t0 (fun e => by simp [Label.timerEnd.inj e] at hne) (hi.live t0 hm)
      · exact cov_pres hs t0 nofun _ _ (hi.cov t0)
    case tickBegin t m =>
      have hcnt := stepTickBegin_tickCnt hs
      have htims := (step_frame hs rfl).timers rfl
      have hge : tickCnt t s ≥ 1 := by have := hcnt t; simp at this; omega
      have hcov : cntOf σ.ticks t + tickCnt t s + 1 ≤ cntOf σ.arms t := by
        rcases hi.cov t with h | ⟨h1, _⟩
        · exact h
        · omega
      have hchk : ¬ ((lookup t σ.ticks).getD 0 + 2 > (lookup t σ.arms).getD 0) := by
        unfold cntOf at hcov; omega
      refine ⟨{ σ with ticks := bump σ.ticks t }, by simp only [monC10q, if_neg hchk],
        ⟨fun t0 ht0 => ?_, fun t0 => ?_⟩⟩
      · exact liveT_pres hs t0 nofun (hi.live t0 ht0)
      · have hun : allUnarmed s' t0 = allUnarmed s t0 := by unfold allUnarmed; rw [htims]
        have hc0 := hcnt t0
        by_cases ht : t0 = t
        · subst ht
          simp only [cntOf_bump_self]
          simp at hc0
          left; omega
        · simp only [cntOf_bump_ne _ ht, hun]
          simp [ht] at hc0
          rw [← hc0]; exact hi.cov t0
    case quiescent pend =>
      obtain ⟨hq, -, -, rfl⟩ := stepQuiescent_cases hs
      -- a quiet actor has no timer task that has not ended
      have hlive : σ.live = [] := by
        cases hl : σ.live with
        | nil => rfl
        | cons t rest =>
          exfalso
          have h1 := hi.live t (by rw [hl]; simp)
          unfold liveT at h1
          obtain ⟨x, hx, hp⟩ := List.any_eq_true.mp h1
          unfold quiet at hq
          simp only [Bool.and_eq_true] at hq
          have := List.all_eq_true.mp hq.1.2 x hx
          simp at hp this
          exact hp.2 this
      exact ⟨σ, by simp [monC10q, hlive], hi⟩

theorem c10q_init (c : MonCtx) : C10qInv (AState.init c.cfg c.h0 c.k0) (monC10q c).init := by
  refine ⟨?_, ?_⟩
  · intro t ht; simp [monC10q] at ht
  · intro t; right
    simp [monC10q, cntOf, lookup, tickCnt, cntP, AState.init, Chan.init, allUnarmed]

/-- **C10q (ticks are covered by wake-ups; no timer task is leaked).** For every timer kind, duration,
    interleaving with messages, restarts and termination: whenever the loop takes up a tick of timer `t`,
    the number of ticks of `t` taken up so far is at most the number of times `t`'s task went to sleep minus
    two (the first sleep is the initial one, every later sleep of an `interval` task follows exactly one
    pushed tick, and the tick being taken up is one of those); and at every `quiescent` label (in
    particular after termination) every timer task that was registered has been seen to end. -/
theorem C10q_holds (w : Wiring) (c : MonCtx) (ls : List Label) (s : AState)
    (hr : run w (AState.init c.cfg c.h0 c.k0) ls = some s) : (monC10q c).ok ls = true :=
  ok_of_run_lift (monC10q c) w C10qInv (fun _ _ _ _ hi hs => c10q_step w c hi hs) _ (c10q_init c) ls s hr

def c10qCfg : Cfg := { cap := none, strat := .only, timeout := none, failOnTimeout := false, stream := false }
def c10qCtx : MonCtx := { cfg := c10qCfg, h0 := 0, k0 := .addr, prompt := true }
/- Non-vacuity: an `interval` of period 5 sleeps, wakes at 5 and 10 (two ticks pushed), both ticks are
    taken up; a third tick, a tick before the second sleep and a timer left at quiescence are flagged. -/
def c10qExample : List Label :=
  [ .cbBegin .started, .ctxTimer 0 .interval 5, .cbEnd .started true, .timerArm 0 5, .time 5, .timerArm 0 10,
    .tickBegin 0 1, .cbBegin (.handle 1), .cbEnd (.handle 1) true, .time 10, .timerArm 0 15, .tickBegin 0 2,
    .cbBegin (.handle 2), .cbEnd (.handle 2) true ]
example : (monC10q c10qCtx).ok c10qExample = true := by decide
example : (monC10q c10qCtx).ok (c10qExample ++ [.tickBegin 0 3]) = false := by decide
example : (monC10q c10qCtx).ok [ .cbBegin .started, .ctxTimer 0 .interval 5, .cbEnd .started true, .timerArm 0 5,
    .tickBegin 0 1 ] = false := by decide
example : (monC10q c10qCtx).ok [ .cbBegin .started, .ctxTimer 0 .interval 5, .cbEnd .started true, .timerArm 0 5,
    .cancel, .quiescent [] ] = false := by decide
example : (monC10q c10qCtx).ok [ .cbBegin .started, .ctxTimer 0 .interval 5, .cbEnd .started true, .timerArm 0 5,
    .cancel, .timerEnd 0, .quiescent [] ] = true := by decide

end Hannibal
