import Hannibal.Props.C06
/-
  C06, send part that *is* a theorem of the model: a send begun after the failed actor's task is gone
  (failure + `taskDone` / `taskPanic` / `cancel`) never returns Ok (`monC06s`).  No wiring hypothesis.
-/
namespace Hannibal
open AState

def DoneRx (s : AState) : Prop := s.isDone = true → s.chan.rx = false

theorem doneRx_init (cfg : Cfg) (h0 : Nat) (k0 : HKind) : DoneRx (AState.init cfg h0 k0) :=
  fun h => Bool.noConfusion h

theorem doneRx_step {w : Wiring} {s s' : AState} {l : Label} (hs : step w s l = some s') (hi : DoneRx s) :
    DoneRx s' := by
  intro hd
  obtain ⟨-, h2⟩ := step_isDone w hs
  cases ht : l.terminates
  · rw [(step_chanOf hs).rx ht]; exact hi (h2 ht ▸ hd)
  · rw [(step_chanOf hs).drops ht]; rfl

theorem stepBegin_closed {w s o h k s'} (hs : stepBegin w s o h k = some s') :
    s.findOp o = none ∧ ∃ st, s'.ops = s.ops ++ [{ o, h, kind := k, st }] ∧
      (s.chan.rx = false → k.isSend = true → ∃ e, st = .failed e) := by
  obtain ⟨hfresh, st, hops, hout, -⟩ := stepBegin_ops hs
  refine ⟨hfresh, st, hops, fun hrx hsend => ?_⟩
  cases hout with
  | refused e hst => exact ⟨e, hst⟩
  | wait hpl => cases k <;> first | (cases hsend; done) | cases hpl  -- a send always has a payload
  | sent _ _ _ hrx' => rw [hrx] at hrx'; cases hrx'

def lift06 (σ : C06sSt) : C06St :=
  { failed := σ.failed, terminated := σ.terminated, ops := [], finishedOk := [], timers := [] }

theorem Flags06.congr {c s} {σ1 σ2 : C06St} (h : Flags06 c s σ1) (hf : σ1.failed = σ2.failed)
    (ht : σ1.terminated = σ2.terminated) : Flags06 c s σ2 := by
  obtain ⟨⟨sd, h1⟩, h2⟩ := h
  exact ⟨⟨sd, hf ▸ h1⟩, ht ▸ h2⟩

theorem bor_ite (a b : Bool) : (a || b) = if b then true else a := by cases a <;> cases b <;> rfl

theorem next06s_failed (c σ l) :
    (next06s c σ l).failed = (if fails06 c.cfg.failOnTimeout l then true else σ.failed) := by
  cases l <;> first | rfl | exact bor_ite _ _

theorem next06s_terminated (c σ l) :
    (next06s c σ l).terminated = (if l.terminates then true else σ.terminated) := by
  cases l <;> first | rfl | exact bor_ite _ _

theorem next06s_ops (c σ l) :
    (next06s c σ l).ops = (match l with
      | .begin o _ k => (o, (k, σ.failed && σ.terminated)) :: σ.ops
      | _ => σ.ops) := by
  cases l <;> rfl

def OpsInv06s (s : AState) (σ : C06sSt) : Prop :=
  ∀ r ∈ s.ops, ∃ g, lookup r.o σ.ops = some (r.kind, g) ∧
    (g = true → r.kind.isSend = true → ∃ e, r.st = .failed e)

structure C06sInv (c : MonCtx) (s : AState) (σ : C06sSt) : Prop where
  f : Flags06 c s (lift06 σ)
  rx : DoneRx s
  ops : OpsInv06s s σ

theorem opsInv06s_step (w : Wiring) (c : MonCtx) {s s' : AState} {σ : C06sSt} {l : Label}
    (hi : C06sInv c s σ) (hs : step w s l = some s') : OpsInv06s s' (next06s c σ l) := by
  cases hedge : l.isOpEdge
  · -- a refused operation stays refused
    obtain ⟨f, hf, pf⟩ := step_ops_fine hs hedge
    have hσops : (next06s c σ l).ops = σ.ops := by cases l <;> first | rfl | cases hedge
    intro r' hr'
    rw [hf] at hr'
    obtain ⟨r, hr, rfl⟩ := List.mem_map.mp hr'
    obtain ⟨ho, hk, -, hst⟩ := pf r
    obtain ⟨g, h1, h2⟩ := hi.ops r hr
    refine ⟨g, by rw [hσops, ho, hk]; exact h1, fun hg hks => ?_⟩
    obtain ⟨e, he⟩ := h2 hg (hk ▸ hks)
    rcases hst with hst | ⟨hpend, -⟩
    · exact ⟨e, hst.trans he⟩
    · rw [he] at hpend; cases hpend
  · cases l <;> first | (cases hedge; done) | skip
    case begin o h k =>
      obtain ⟨hfresh, st, hops, hst⟩ := stepBegin_closed hs
      have hne := findOp_none_ne hfresh
      intro r hr
      rw [hops] at hr
      rcases List.mem_append.mp hr with hr | hr
      · obtain ⟨g, h1, h2⟩ := hi.ops r hr
        exact ⟨g, (lookup_cons_ne (hne r hr).symm).trans h1, h2⟩
      · obtain rfl := List.mem_singleton.mp hr
        refine ⟨σ.failed && σ.terminated, lookup_cons_eq, fun hg hk => ?_⟩
        -- begun after failure and termination: the task, and with it the receiver, is gone
        rw [Bool.and_eq_true] at hg
        exact hst (hi.rx (hi.f.term ▸ hg.2)) hk
    case ret | cdrop =>
      intro r0 hr0
      exact hi.ops r0 ((step_removes hs rfl (fun _ _ _ h => Label.noConfusion h)).1 r0 hr0)

theorem c06s_step (w : Wiring) (c : MonCtx) {s s' : AState} {σ : C06sSt} {l : Label}
    (hi : C06sInv c s σ) (hs : step w s l = some s') : bad06s σ l = false ∧ C06sInv c s' (next06s c σ l) := by
  have hF : Flags06 c s' (lift06 (next06s c σ l)) :=
    (flags06_step w c hi.f hs).congr (by rw [next06_failed]; exact (next06s_failed c σ l).symm)
      (by rw [next06_terminated]; exact (next06s_terminated c σ l).symm)
  refine ⟨?_, hF, doneRx_step hs hi.rx, opsInv06s_step w c hi hs⟩
  cases l
  case ret o r =>
    obtain ⟨rec, hfind, hexp, -⟩ := stepRet_cases hs
    obtain ⟨hrec, rfl⟩ := findOp_some_mem hfind
    obtain ⟨g, h1, h2⟩ := hi.ops rec hrec
    show (match lookup rec.o σ.ops with | some (k, true) => k.isSend && r == .ok | _ => false) = false
    rw [h1]
    cases g
    · rfl
    · show (rec.kind.isSend && r == .ok) = false
      cases hks : rec.kind.isSend
      · rfl
      · -- a refused send returns its error
        obtain ⟨e, he⟩ := h2 rfl hks
        obtain rfl : Res.err e = r := by simpa [retExpect, he] using hexp
        rfl
  all_goals rfl

theorem c06s_init (c : MonCtx) : C06sInv c (AState.init c.cfg c.h0 c.k0) (monC06s c).init :=
  ⟨(c06_init c).f.congr rfl rfl, doneRx_init _ _ _, fun _ h => (nomatch h)⟩

/-- **C06, sends after the task is gone.** A send begun after the failed actor's task has ended is
    refused: it never returns Ok. -/
theorem C06s_holds (w : Wiring) (c : MonCtx) (ls : List Label) (s : AState)
    (hr : run w (AState.init c.cfg c.h0 c.k0) ls = some s) : (monC06s c).ok ls = true :=
  ok_of_run_lift (monC06s c) w (C06sInv c)
    (fun _ _ _ _ hi hs => ⟨_, if_neg (by rw [(c06s_step w c hi hs).1]; exact Bool.false_ne_true), (c06s_step w c hi hs).2⟩)
    _ (c06s_init c) ls s hr

example : (monC06s c06Ctx).ok c06Example = true := by decide
example : (monC06s c06Ctx).ok c06LateSend = true := by decide
example : (monC06s c06Ctx).ok [ .cbBegin .started, .cbPanic .started, .taskDone, .begin 1 0 (.send 5), .ret 1 .ok ]
    = false := by decide
example : (monC06s c06Ctx).ok [ .cbBegin .started, .cbEnd .started true, .cancel, .begin 1 0 (.send 5), .ret 1 .ok ]
    = false := by decide

end Hannibal
