import Hannibal.Props.C05Q
import Hannibal.Props.C05Current
/- C05 (2), drain-then-stop, for the wiring extracted from today's source. -/
namespace Hannibal

theorem C05q_current (c : MonCtx) (ls : List Label) (s : AState)
    (hr : run Wiring.current (AState.init c.cfg c.h0 c.k0) ls = some s) (hfresh : opIdsFresh ls = true) :
    (monC05q c).ok ls = true :=
  C05q_holds _ wellWired05_current c ls s hr hfresh

example : (run Wiring.current (AState.init c05Cfg 0 .addr) c05qExample).isSome = true := by decide
example : (grun Wiring.current (AState.init c05Cfg 0 .addr) c05qExample).isSome = true := by decide

/-- why the hypothesis on operation ids is needed: the model lets an id be reused after `cdrop`.  The reply
    slot of the dropped `Caller::call` 0 then answers the `try_send` that took over its id, which can never
    return and owns a strong sender for ever: the model is quiet with the loop parked on an open mailbox
    although no strong handle is left, and `monC05q` rejects. -/
def c05qReuseWitness : List Label :=
  [ .cbBegin .started, .cbEnd .started true, .mk 0 1 .caller, .mk 0 2 .weakSender,
    .begin 0 1 (.callw 5), .cdrop 0, .begin 0 2 (.trySend 6), .drop 0, .drop 1,
    .cbBegin (.handle 5), .cbEnd (.handle 5) true, .cbBegin (.handle 6), .cbEnd (.handle 6) true,
    .quiescent [0] ]
example : (run Wiring.current (AState.init c05Cfg 0 .addr) c05qReuseWitness).isSome = true := by decide
example : (monC05q c05Ctx).ok c05qReuseWitness = false := by decide
example : opIdsFresh c05qReuseWitness = false := by decide

/-- the wiring hypothesis is needed: if weak senders owned a closure the loop would stay parked on the open
    mailbox after the last strong handle is gone, at a quiescence the monitor rejects -/
example : (run Wiring.weakOwns (AState.init c05Cfg 0 .addr)
    [ .cbBegin .started, .cbEnd .started true, .mk 0 1 .weakSender, .drop 0, .quiescent [] ]).isSome = true
  ∧ (monC05q c05Ctx).ok [ .cbBegin .started, .cbEnd .started true, .mk 0 1 .weakSender, .drop 0,
      .quiescent [] ] = false := by decide

end Hannibal
