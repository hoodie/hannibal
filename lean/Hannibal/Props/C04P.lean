import Hannibal.Proofs.C04PQueue
import Hannibal.Monitor.C02
/-
  C02 / C04 (drain barrier, said of pings): for every wiring, every run of the actor model whose `begin`
  labels carry pairwise distinct operation ids (`opIdsFresh`) is accepted by `monC04p`:

    a `ping` begun after some stop request was accepted and had returned (`stopReq _ true`, `ctxStop true`, or
    a `halt` / `try_halt` that returned Ok) never returns Ok.

  The invariant is the one of `C04q_holds` (`Proofs/C04QInv.lean`), said of ping payloads instead of user
  messages: an accepted stop request waits in the mailbox as long as the loop takes entries (`b`), no late
  ping waits ahead of the first stop request (`a`), and a recorded late ping is never `pinged` (`p`) - the
  loop marks a ping only when it takes its payload from the head of the mailbox.  Neither the wiring
  hypothesis of `C04q_holds` nor freshness of message numbers is needed; freshness of operation ids is
  (`Props/C04PCurrent.lean`, `c04pReuseOp`).
-/
namespace Hannibal
open AState

theorem monC04p_step (σ : C04pSt) (l : Label) :
    monC04p.step σ l = if bad04p σ l then none else some (next04p σ l) := rfl

theorem next04p_ops (σ : C04pSt) (l : Label) : (next04p σ l).ops = opsNext4 σ.ops l := by
  cases l <;> simp only [next04p, opsNext4]
  case ret o r => (repeat' split) <;> rfl

/-- `monC04p` keeps `stopAccepted` exactly as `monC04q` does -/
theorem next04p_acc (σ : C04pSt) (l : Label) :
    (next04p σ l).stopAccepted =
      acceptedNext { (monC04q default).init with ops := σ.ops, stopAccepted := σ.stopAccepted } l := by
  obtain ⟨ops, sa, late⟩ := σ
  cases l <;> try rfl
  case ret o r =>
    simp only [next04p, acceptedNext]
    cases lookup o ops with
    | none => rfl
    | some k => cases k <;> cases sa <;> first | rfl | (cases (r == Res.ok) <;> rfl)

theorem next04p_late_cases {σ : C04pSt} {l : Label} {o : Nat} (h : o ∈ (next04p σ l).late) :
    o ∈ σ.late ∨ (∃ h, l = .begin o h .ping ∧ σ.stopAccepted = true) := by
  cases l <;> simp only [next04p] at h <;> try exact .inl h
  case begin o' h' k =>
    cases k <;> simp only at h <;> try exact .inl h
    by_cases hsa : σ.stopAccepted = true
    · rw [if_pos hsa] at h
      rcases List.mem_cons.mp h with rfl | h
      · exact .inr ⟨h', rfl, hsa⟩
      · exact .inl h
    · rw [if_neg hsa] at h; exact .inl h
  case ret o' r =>
    revert h
    (repeat' split) <;> exact fun h => .inl h

def seenNext04p (seen : List Nat) : Label → List Nat
  | .begin o _ _ => o :: seen
  | _ => seen

def Fresh04p (seen : List Nat) (l : Label) : Prop := ∀ o h k, l = .begin o h k → o ∉ seen

theorem wf_step04p {c : MonCtx} {seen seen1 : List Nat} {l : Label} (h : (monC02wf c).step seen l = some seen1) :
    Fresh04p seen l ∧ seen1 = seenNext04p seen l := by
  cases l <;> first | exact ⟨fun _ _ _ he => (nomatch he), (Option.some.inj h).symm⟩ | skip
  rename_i o h' k
  simp only [monC02wf] at h
  split at h
  · cases h
  · rename_i hc
    exact ⟨fun _ _ _ he => by cases he; simpa using hc, (Option.some.inj h).symm⟩

theorem seenNext04p_mono (seen : List Nat) (l : Label) {o : Nat} (h : o ∈ seen) : o ∈ seenNext04p seen l := by
  cases l <;> simp only [seenNext04p] <;> first | exact h | exact List.mem_cons_of_mem _ h

structure C04pInv (s : AState) (σ : C04pSt) (seen : List Nat) : Prop where
  ops : OpsT s σ.ops
  lp : LatchPast s
  /-- an accepted stop request waits in the mailbox as long as the loop takes entries -/
  b : σ.stopAccepted = true → loopAlive s.phase = true → hasStop s.chan.queue = true
  lateSeen : ∀ o ∈ σ.late, o ∈ seen
  qSeen : ∀ o ∈ qpings04p s.chan.queue, o ∈ seen
  /-- no late ping waits ahead of the first stop request -/
  a : loopAlive s.phase = true → ∀ o ∈ σ.late, o ∉ aheadP04p s.chan.queue
  /-- a recorded late operation is a ping the loop has not taken -/
  p : ∀ rec ∈ s.ops, rec.o ∈ σ.late → rec.kind = .ping ∧ rec.st ≠ .pinged

theorem inv04p_a_step {w s s' σ seen l} (hi : C04pInv s σ seen) (hs : step w s l = some s')
    (hf : Fresh04p seen l) (hal' : loopAlive s'.phase = true) :
    ∀ o ∈ (next04p σ l).late, o ∉ aheadP04p s'.chan.queue := by
  intro o ho hoa
  have hal := alive_mono hs hal'
  have hp := (step_prel04p hs).2 hal' o hoa
  rcases next04p_late_cases ho with hl | ⟨h, rfl, hsa⟩
  · rcases hp with hold | ⟨⟨h, rfl⟩, _⟩
    · exact hi.a hal o hl hold
    · exact hf o h _ rfl (hi.lateSeen o hl)
  · rcases hp with hold | ⟨_, hst⟩
    · exact hf o h _ rfl (hi.qSeen o (aheadOf_sub hold))
    · rw [hi.b hsa hal] at hst; simp at hst

theorem inv04p_p_step {w s s' σ seen l} (hi : C04pInv s σ seen) (hs : step w s l = some s')
    (hf : Fresh04p seen l) :
    ∀ rec ∈ s'.ops, rec.o ∈ (next04p σ l).late → rec.kind = .ping ∧ rec.st ≠ .pinged := by
  intro rec hrec hlate
  replace hlate := next04p_late_cases hlate
  cases hedge : l.isOpEdge
  · have hl : rec.o ∈ σ.late := hlate.resolve_right fun ⟨_, he, _⟩ => by subst he; cases hedge
    by_cases hdeq : l = .tDeq
    · subst hdeq
      obtain ⟨hph, hops | ⟨o, tok, rest, hq, hops⟩⟩ := stepDeq_ops04p hs
      · exact hi.p rec (hops ▸ hrec) hl
      · -- the loop takes the payload of ping `o` from the head of the mailbox, so `o` is not late
        obtain ⟨r, hr, rfl⟩ := List.mem_map.mp (hops ▸ hrec)
        unfold resolve at hl ⊢
        split
        · rename_i hc
          rw [if_pos hc] at hl
          obtain ⟨rfl, -⟩ : r.o = o ∧ r.st = .pending := by simpa using hc
          exact absurd (hq ▸ mem_aheadOf_cons.mpr ⟨rfl, .inl rfl⟩) (hi.a (by rw [hph]; rfl) r.o hl)
        · rename_i hc
          rw [if_neg hc] at hl
          exact hi.p r hr hl
    · -- elsewhere a record only goes from `pending` to `cancelled` or `answered`
      obtain ⟨f, hops, hfine⟩ := step_ops_fine hs hedge
      obtain ⟨r, hr, rfl⟩ := List.mem_map.mp (hops ▸ hrec)
      obtain ⟨ho, hk, -, hst⟩ := hfine r
      obtain ⟨hk0, hst0⟩ := hi.p r hr (ho ▸ hl)
      refine ⟨hk.trans hk0, ?_⟩
      rcases hst with hst | ⟨_, hst | ⟨he, _⟩ | ⟨m, b, d, _, hst⟩⟩
      · rw [hst]; exact hst0
      · rw [hst]; exact OpSt.noConfusion
      · exact absurd he hdeq
      · rw [hst]; exact OpSt.noConfusion
  · cases l <;> first | (cases hedge; done) | skip
    case begin o h k =>
      obtain ⟨hfresh, st, hops, hout, -⟩ := stepBegin_ops hs
      rcases List.mem_append.mp (hops ▸ hrec) with hrec | hrec
      · rcases hlate with hl | ⟨_, he, _⟩
        · exact hi.p rec hrec hl
        · cases he; exact absurd rfl (findOp_none_ne hfresh rec hrec)
      · obtain rfl := List.mem_singleton.mp hrec
        rcases hlate with hl | ⟨_, he, _⟩
        · exact absurd (hi.lateSeen o hl) (hf o h k rfl)
        · cases he
          exact ⟨rfl, fun h2 : st = .pinged => by rcases hout.st_cases with h | h | h | h | ⟨h, -⟩ <;> rw [h2] at h <;> cases h⟩
    case ret o r =>
      obtain ⟨_, _, _, hops, _⟩ := stepRet_ops hs
      exact hi.p rec (List.mem_filter.mp (hops ▸ hrec)).1 (hlate.resolve_right fun ⟨_, he, _⟩ => by cases he)
    case cdrop o =>
      exact hi.p rec (List.mem_filter.mp (stepCdrop_ops hs ▸ hrec)).1
        (hlate.resolve_right fun ⟨_, he, _⟩ => by cases he)

theorem inv04p_bad {w s s' σ seen l} (hi : C04pInv s σ seen) (hs : step w s l = some s') :
    bad04p σ l = false := by
  cases l <;> try rfl
  case ret o r =>
    simp only [bad04p]
    cases hlate : σ.late.contains o
    · rfl
    · by_cases hr : r = .ok
      · exfalso
        subst hr
        obtain ⟨rec, hfind, hexp, -, rfl⟩ := stepRet_ops hs
        obtain ⟨hk, hst⟩ := hi.p rec (findOp_some_mem hfind).1 (by simpa using hlate)
        exact hst (retExpect_ping_ok04p hk hexp)
      · simpa using hr

theorem c04p_step (w : Wiring) {s s' : AState} {σ : C04pSt} {seen : List Nat} {l : Label}
    (hi : C04pInv s σ seen) (hs : step w s l = some s') (hf : Fresh04p seen l) :
    bad04p σ l = false ∧ C04pInv s' (next04p σ l) (seenNext04p seen l) := by
  refine ⟨inv04p_bad hi hs, ?_⟩
  refine
    { ops := by rw [next04p_ops]; exact opsT_step hi.ops hs
      lp := latchPast_step hs hi.lp
      b := fun hacc hal' => accepted_step hi.ops hi.lp hs hal'
        ((acceptedNext_cases (next04p_acc σ l ▸ hacc)).imp_left fun h => hi.b h (alive_mono hs hal'))
      lateSeen := ?_
      qSeen := ?_
      a := fun hal' => inv04p_a_step hi hs hf hal'
      p := inv04p_p_step hi hs hf }
  · intro o ho
    rcases next04p_late_cases ho with hl | ⟨h, rfl, _⟩
    · exact seenNext04p_mono _ _ (hi.lateSeen o hl)
    · simp [seenNext04p]
  · intro o ho
    rcases (step_prel04p hs).1 o ho with hq | ⟨h, rfl⟩
    · exact seenNext04p_mono _ _ (hi.qSeen o hq)
    · simp [seenNext04p]

theorem c04p_init (cfg : Cfg) (h0 : Nat) (k0 : HKind) : C04pInv (AState.init cfg h0 k0) monC04p.init [] :=
  { ops := fun _ h => nomatch h
    lp := latchPast_init _ _ _
    b := fun h => nomatch h
    lateSeen := fun _ h => nomatch h
    qSeen := fun _ h => nomatch h
    a := fun _ _ h => nomatch h
    p := fun _ h => nomatch h }

/-- **C02 / C04 (stop is a drain barrier, pings).**  In every run of the actor model — every wiring, both
    mailbox kinds, every handle kind, waiting and forcing path, timers, restarts queued before the stop, every
    termination cause — whose trace never re-uses an operation id: a `ping` begun after an accepted stop
    request had returned (`stopReq _ true`, `ctxStop true`, a `halt` / `try_halt` that returned Ok) never
    returns Ok. -/
theorem C04p_holds (w : Wiring) (c : MonCtx) (ls : List Label) (s : AState)
    (hr : run w (AState.init c.cfg c.h0 c.k0) ls = some s) (hfresh : opIdsFresh ls = true) :
    monC04p.ok ls = true := by
  refine ok_of_run_lift_wf monC04p (monC02wf default) w C04pInv ?_ _ (c04p_init _ _ _) ls s hr hfresh
  intro s s' σ seen seen' l hi hs hwf
  obtain ⟨hf, rfl⟩ := wf_step04p hwf
  obtain ⟨hbad, hi'⟩ := c04p_step w hi hs hf
  exact ⟨_, by rw [monC04p_step, hbad]; rfl, hi'⟩

theorem wf01_opIdsFresh04p (ls : List Label) (h : wf01 ls = true) : opIdsFresh ls = true := by
  have key : ∀ (ls : List Label) (g : Wf01St), (monWf01.run g ls).isSome = true →
      ((monC02wf default).run g.seenO ls).isSome = true := by
    intro ls
    induction ls with
    | nil => intro g _; simp [Mon.run]
    | cons l ls ih =>
      intro g hg
      simp only [Mon.run] at hg ⊢
      have hb : wfBad g l = false := by
        cases hb : wfBad g l
        · rfl
        · simp [monWf01, hb] at hg
      simp only [monWf01, hb] at hg
      have hstep : (monC02wf default).step g.seenO l = some (wfNext g l).seenO := by
        cases l <;> simp only [monC02wf, wfNext] <;> try rfl
        case begin o h k =>
          simp only [wfBad, Bool.or_eq_false_iff] at hb
          have hb1 : o ∉ g.seenO := by simpa using hb.1
          simp [hb1]
        case fire t mo => cases mo <;> rfl
      rw [hstep]
      exact ih _ hg
  exact key ls monWf01.init h

/-- the same under the hypotheses of `C04q_holds` (`wf01` implies `opIdsFresh`; the wiring hypothesis is
    not used) -/
theorem C04p_holds' (w : Wiring) (_hw : WellWired05 w) (c : MonCtx) (ls : List Label) (s : AState)
    (hr : run w (AState.init c.cfg c.h0 c.k0) ls = some s) (hwf : wf01 ls = true) : monC04p.ok ls = true :=
  C04p_holds w c ls s hr (wf01_opIdsFresh04p ls hwf)

def c04pCfg : Cfg := { cap := none, strat := .only, timeout := none, failOnTimeout := false, stream := false }

/-- the actor is busy with message 1 when the stop request is accepted; ping 2 is begun afterwards; the actor
    finishes its handler, takes the stop, stops gracefully; the ping returns an error.  Ping 1, begun before
    the stop request, returns Ok. -/
def c04pExample : List Label :=
  [ .cbBegin .started, .cbEnd .started true,
    .begin 0 0 (.send 1), .ret 0 .ok, .cbBegin (.handle 1),
    .begin 1 0 .ping,
    .stopReq 0 true,
    .begin 2 0 .ping,
    .cbEnd (.handle 1) true,
    .tDeq, .ret 1 .ok,
    .tDeq, .cbBegin .stopped, .cbEnd .stopped true, .taskDone,
    .ret 2 (.err .canceled) ]

example : monC04p.ok c04pExample = true := by decide
/-- the freshness hypothesis is satisfiable (by the same trace) -/
example : opIdsFresh c04pExample = true := by decide
example : wf01 c04pExample = true := by decide

/-- a ping begun after an accepted `stopReq` had returned gets Ok -/
example : monC04p.ok [ .cbBegin .started, .cbEnd .started true, .stopReq 0 true, .begin 2 0 .ping,
    .ret 2 .ok ] = false := by decide
/-- a ping begun after an accepted `ctx.stop()` had returned gets Ok -/
example : monC04p.ok [ .cbBegin .started, .ctxStop true, .cbEnd .started true, .begin 2 0 .ping,
    .ret 2 .ok ] = false := by decide
/-- a ping begun after a `halt` returned Ok gets Ok -/
example : monC04p.ok [ .cbBegin .started, .cbEnd .started true, .mk 0 1 .addr, .begin 0 0 .halt, .tDeq,
    .cbBegin .stopped, .cbEnd .stopped true, .taskDone, .ret 0 .ok, .begin 2 1 .ping, .ret 2 .ok ] = false := by
  decide
/-- a refused stop request does not count: the ping may return Ok as far as this monitor is concerned -/
example : monC04p.ok [ .cbBegin .started, .cbEnd .started true, .stopReq 0 false, .begin 2 0 .ping,
    .ret 2 .ok ] = true := by decide

end Hannibal
