import Hannibal.Proofs.Run
import Hannibal.Props.C04
import Hannibal.Monitor.C11
/-
  C11 (who may be abandoned, and when): every run of the actor model is accepted by `monC11`.
  No wiring hypothesis: the deadline is part of the loop model (`timeout_fut`).
-/
namespace Hannibal
open AState

/-- only a handler invocation carries a deadline, and it is begin + t -/
def curOk (cur : Option (Nat × Nat)) (tmo : Option Nat) : Phase → Bool
  | .handling (.handle m) _ dl =>
    (match cur with
     | some (m', b) => m' == m && dl == tmo.map (fun t => b + t)
     | none => false)
  | .handling _ _ dl => dl == none
  | _ => true

structure C11Inv (c : MonCtx) (s : AState) (σ : C11St) : Prop where
  cfg : s.cfg = c.cfg
  clock : σ.clock = s.clock
  cur : curOk σ.cur (tmoOf c.cfg) s.phase = true
  after : σ.afterAbandon = true → s.inCallback = false
  dead : σ.dead = true → failing s.phase = true
  canc : s.abandon.isSome = true → σ.cancelled = true

theorem c11Inv_iff {c : MonCtx} {s : AState} {σ : C11St} : C11Inv c s σ ↔
    s.cfg = c.cfg ∧ σ.clock = s.clock ∧ curOk σ.cur (tmoOf c.cfg) s.phase = true ∧
      (σ.afterAbandon = true → s.inCallback = false) ∧ (σ.dead = true → failing s.phase = true) ∧
      (s.abandon.isSome = true → σ.cancelled = true) :=
  ⟨fun ⟨a, b, c, d, e, f⟩ => ⟨a, b, c, d, e, f⟩, fun ⟨a, b, c, d, e, f⟩ => ⟨a, b, c, d, e, f⟩⟩

theorem curOk_deadline {cur tmo cb slot dl} (h : curOk cur tmo (.handling cb slot (some dl)) = true) :
    ∃ m b t, cb = .handle m ∧ cur = some (m, b) ∧ tmo = some t ∧ dl = b + t := by
  cases cb <;> first | (simp [curOk] at h; done) | skip
  rcases cur with _ | ⟨m', b⟩ <;> cases tmo <;> simp [curOk] at h
  exact ⟨_, b, _, rfl, by rw [h.1], rfl, h.2⟩

theorem deadlineAt_eq (s : AState) : s.deadlineAt = (tmoOf s.cfg).map (fun t => s.clock + t) := by
  unfold deadlineAt tmoOf; split <;> rfl

@[simp] theorem cancelSlots_clock (s : AState) (l) : (s.cancelSlots l).clock = s.clock := rfl
@[simp] theorem fail_clock (s : AState) : s.fail.clock = s.clock := rfl
@[simp] theorem fail_busy (s : AState) : s.fail.busy = none := rfl
@[simp] theorem finish_clock (s : AState) : s.finish.clock = s.clock := rfl
@[simp] theorem finish_busy (s : AState) : s.finish.busy = none := rfl

/-- the effects a callback produces through its context -/
def Label.isCtx : Label → Bool
  | .ctxStop _ | .ctxRestart _ | .ctxTimer _ _ _ | .ctxWeak _ _ => true
  | _ => false

theorem step_ctx_inCallback {w s l s'} (hs : step w s l = some s') (hl : l.isCtx = true) : s.inCallback = true := by
  cases l <;> first | (cases hl; done) | skip
  all_goals simp only [step] at hs
  case ctxStop ok => exact (stepCtxSignal_cases hs).1
  case ctxRestart ok => exact (stepCtxSignal_cases hs).1
  case ctxTimer t k d => exact (stepCtxTimer_cases hs).1
  case ctxWeak k h => exact (stepCtxWeak_cases hs).1

theorem bad11_other (c : MonCtx) (σ : C11St) {l : Label} (hl : l.isLoop = false) :
    bad11 c σ l = (l.isCtx && σ.afterAbandon) := by
  cases l <;> first | rfl | cases hl

theorem next11_other (c : MonCtx) (σ : C11St) {l : Label} (hl : l.isLoop = false) (ht : ∀ t, l ≠ .time t) :
    next11 c σ l = σ := by
  cases l <;> first | rfl | exact absurd rfl (ht _) | cases hl

theorem c11_step (w : Wiring) (c : MonCtx) {s s' : AState} {σ : C11St} {l : Label}
    (hi : C11Inv c s σ) (hs : step w s l = some s') :
    bad11 c σ l = false ∧ C11Inv c s' (next11 c σ l) := by
  obtain ⟨hcfg, hclock, hcur, hafter, hdead, hcanc⟩ := hi
  cases hl : l.isLoop
  · refine ⟨?_, ?_⟩
    · -- a context effect needs an open callback, and none is open after an abandonment
      rw [bad11_other c σ hl]
      cases hc : l.isCtx
      · rfl
      · cases ha : σ.afterAbandon
        · rfl
        · rw [step_ctx_inCallback hs hc] at hafter; exact absurd (hafter ha) (by simp)
    · by_cases ht : ∃ t, l = .time t
      · obtain ⟨t, rfl⟩ := ht
        obtain ⟨-, -, rfl⟩ := stepTime_cases hs
        exact ⟨hcfg, rfl, hcur, hafter, hdead, hcanc⟩
      · have ht : ∀ t, l ≠ .time t := fun t h => ht ⟨t, h⟩
        rw [next11_other c σ hl ht]
        refine ⟨(step_cfg hs).trans hcfg, hclock.trans (step_clock hs ht).symm, ?_, ?_, ?_, ?_⟩
        · rw [step_phase hs hl]; exact hcur
        · unfold inCallback; rw [step_phase hs hl]; exact hafter
        · rw [step_phase hs hl]; exact hdead
        · rw [step_abandon hs hl]; exact hcanc
  · have h := step_loop hs hl
    clear hs hl
    cases h
    case timeout cb slot dl hp hdl hf | timeoutFatal cb slot dl hp hdl hf =>
      rw [hp] at hcur
      obtain ⟨m, b, t, rfl, hcu, ht, rfl⟩ := curOk_deadline hcur
      cases hc : σ.cancelled <;> simp_all [c11Inv_iff, bad11, next11, curOk, failing, inCallback]
    -- `c11Inv_iff` lets `simp_all` open the structure goal
    all_goals simp_all [c11Inv_iff, bad11, next11, curOk, failing, inCallback, deadlineAt_eq]

theorem c11_init (c : MonCtx) : C11Inv c (AState.init c.cfg c.h0 c.k0) (monC11 c).init := by
  refine ⟨rfl, rfl, ?_, ?_, ?_, ?_⟩ <;> simp [monC11, AState.init, curOk]

/-- **C11 (who may be abandoned, and when).** For all timeout values, handler durations, message
    sequences, both mailbox kinds, fail_on_timeout on or off: an invocation is abandoned only with a
    configured timeout t (never on stream-attached actors), only a handler invocation, never before
    begin + t on the virtual clock; afterwards it produces no context effects; with fail_on_timeout no
    callback ever begins again; without a configured timeout nothing is ever abandoned. -/
theorem C11_holds (w : Wiring) (c : MonCtx) (ls : List Label) (s : AState)
    (hr : run w (AState.init c.cfg c.h0 c.k0) ls = some s) : (monC11 c).ok ls = true :=
  ok_of_run_lift (monC11 c) w (C11Inv c)
    (fun s s' σ l hi hs => by
      obtain ⟨hb, hi'⟩ := c11_step w c hi hs
      exact ⟨next11 c σ l, by simp [monC11, hb], hi'⟩)
    _ (c11_init c) ls s hr

def c11Cfg : Cfg := { cap := none, strat := .only, timeout := some 5, failOnTimeout := false, stream := false }
def c11Ctx : MonCtx := { cfg := c11Cfg, h0 := 0, k0 := .addr, prompt := true }
/- Non-vacuity: a slow invocation is abandoned at begin + t, the next message is still handled;
    abandoning earlier is flagged. -/
def c11Example : List Label :=
  [ .cbBegin .started, .cbEnd .started true, .begin 0 0 (.call 1), .begin 1 0 (.send 2), .cbBegin (.handle 1),
    .work 9, .time 5, .cbAbandon (.handle 1), .ret 0 (.err .canceled), .cbBegin (.handle 2),
    .cbEnd (.handle 2) true ]
example : (monC11 c11Ctx).ok c11Example = true := by decide
example : (monC11 c11Ctx).ok [ .cbBegin .started, .cbEnd .started true, .begin 0 0 (.call 1),
    .cbBegin (.handle 1), .work 9, .time 4, .cbAbandon (.handle 1) ] = false := by decide

end Hannibal
