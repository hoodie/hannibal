import Hannibal.Proofs.C05QLite
import Hannibal.Props.C02
import Hannibal.Monitor.C12Q
/-
  C12, "every send still returns once the actor has caught up or terminated": for every wiring, every run of
  the actor model whose `begin` labels carry pairwise distinct operation ids is accepted by `monC12q`:

    at a `quiescent pend` label no send-like operation (`send` / `try_send`) begun earlier is in `pend`.

  Why: `quiescent` is accepted only in a quiet state.  There the mailbox queue is empty (the loop is parked on
  an empty mailbox, or the actor is done and `Receiver::drop` emptied it: `DoneChan`), so by the channel
  invariant `Chan.WF` (the parked tokens are the tokens of the queue entries beyond the buffer) nobody is
  parked.  A recorded send-like operation is `pending` or `failed` (`stOk`, part of the C02 coupling, used
  here as a ghost invariant `Lite02`), so it could return (`retExpect ≠ none`) — but in a quiet state no
  recorded operation can.  Hence no recorded operation is send-like, and by freshness of the operation ids an
  id the monitor remembers as a send can only be recorded as that send.

  The hypothesis `opIdsFresh` is needed (witnesses in `Props/C12QCurrent.lean`): `c12q_reuse_simple` re-uses
  the id of a returned send for an `await`, which is legitimately outstanding at quiescence;
  `c12q_reuse_witness` re-uses the id of a dropped call for a send, which the call's reply slot then cancels.
  Both are runs of the model that `monC12q` rejects.
-/
namespace Hannibal
open AState

def SendsOk12q (σ : C12qSt) (σ2 : C02St) : Prop :=
  ∀ o ∈ σ.sends, ∃ k late, lookup o σ2.ops = some (k, late) ∧ (isSendKind k).isSome = true

structure C12qInv (s : AState) (σ : C12qSt) (σ2 : C02St) : Prop where
  i2 : Lite02 s σ2
  sends : SendsOk12q σ σ2

theorem send_returns12q {s : AState} {fin : List Nat} (hpk : s.chan.parked = []) {r : OpRec}
    (hk : (isSendKind r.kind).isSome = true) (hst : stOk fin r.kind r.st = true) :
    s.retExpect r ≠ none := by
  unfold retExpect
  cases hs : r.st <;> cases hk' : r.kind <;>
    simp [hs, hk', isSendKind, stOk, OpKind.isCall, Chan.isParked, hpk] at hk hst ⊢

theorem quiet_no_send12q {w : Wiring} {s : AState} {σ2 : C02St} (hi : Lite02 s σ2) (hq : s.quiet w = true)
    {r : OpRec} (hr : r ∈ s.ops) : (isSendKind r.kind).isSome = false := by
  obtain ⟨hqe, _, hnone⟩ := quiet_facts hq hi.dchan
  have hpk := parked_nil_of_wf hi.wf hqe
  obtain ⟨late, _, _, _, h4⟩ := opOk_parts (hi.ops r hr)
  cases hk : (isSendKind r.kind).isSome
  · rfl
  · exact absurd (hnone r hr) (send_returns12q hpk hk h4)

theorem quiescent_ok12q {w : Wiring} {s s' : AState} {σ : C12qSt} {σ2 : C02St} {pend : List Nat}
    (hi : C12qInv s σ σ2) (hs : s.stepQuiescent w pend = some s') : bad12q σ (.quiescent pend) = false := by
  unfold stepQuiescent at hs
  split at hs
  · rename_i hc
    simp only [Bool.and_eq_true] at hc
    obtain ⟨⟨hq, hpend⟩, _⟩ := hc
    simp only [bad12q]
    apply List.any_eq_false.mpr
    intro o ho hcon
    have hmem : o ∈ σ.sends := by simpa using hcon
    obtain ⟨k, late, hl, hk⟩ := hi.sends o hmem
    have hf := List.all_eq_true.mp hpend o ho
    cases hfo : s.findOp o with
    | none => simp [hfo] at hf
    | some r =>
      obtain ⟨hr, hro⟩ := findOp_some_mem hfo
      obtain ⟨late', h1, _⟩ := opOk_parts (hi.i2.ops r hr)
      rw [hro, hl] at h1
      have hkk : k = r.kind := by injection h1 with h1; exact (Prod.mk.inj h1).1
      rw [hkk, quiet_no_send12q hi.i2 hq hr] at hk
      cases hk
  · simp at hs

theorem sends_step12q {σ : C12qSt} {σ2 : C02St} {l : Label} (hf : freshFor σ2 l) (h : SendsOk12q σ σ2) :
    SendsOk12q (next12q σ l) (next02 σ2 l) := by
  have hold : ∀ o ∈ σ.sends, ∃ k late, lookup o (next02 σ2 l).ops = some (k, late) ∧
      (isSendKind k).isSome = true := by
    intro o ho
    obtain ⟨k, late, hl, hk⟩ := h o ho
    exact ⟨k, late, lookup_next02 hf hl, hk⟩
  cases l <;> try exact hold
  rename_i o' h' k'
  intro o ho
  simp only [next12q] at ho
  split at ho
  · rename_i hk
    simp at ho
    rcases ho with rfl | ho
    · exact ⟨k', σ2.terminated, by simp [lookup], hk⟩
    · exact hold o ho
  · exact hold o ho

theorem c12q_step {w : Wiring} {s s' : AState} {σ : C12qSt} {σ2 : C02St} {l : Label}
    (hi : C12qInv s σ σ2) (hf : freshFor σ2 l) (hs : step w s l = some s') :
    bad12q σ l = false ∧ C12qInv s' (next12q σ l) (next02 σ2 l) := by
  refine ⟨?_, lite02_step w hi.i2 hf hs, sends_step12q hf hi.sends⟩
  cases l <;> try rfl
  case quiescent pend =>
    simp only [step] at hs
    exact quiescent_ok12q hi hs

theorem c12q_init (c : MonCtx) : C12qInv (AState.init c.cfg c.h0 c.k0) monC12q.init C02St.init :=
  ⟨lite02_init c, by intro o ho; simp [monC12q] at ho⟩

/-- **C12, every send returns once the actor has caught up or terminated.**  For every wiring, every run of
    the actor model whose `begin` labels carry pairwise distinct operation ids is accepted by `monC12q`:
    whenever the run reaches quiescence, no send-like operation begun earlier is still outstanding. -/
theorem C12q_holds (w : Wiring) (c : MonCtx) (ls : List Label) (s : AState)
    (hr : run w (AState.init c.cfg c.h0 c.k0) ls = some s) (hwf : opIdsFresh ls = true) :
    monC12q.ok ls = true := by
  refine ok_of_run_lift_wf monC12q (monC02wf c) w (fun s σ seen => ∃ σ2, C12qInv s σ σ2 ∧ SeenOk σ2 seen) ?_ _
    ⟨C02St.init, c12q_init c, seenOk_init⟩ ls s hr hwf
  intro s s' σ seen seen' l ⟨σ2, hi, hseen⟩ hs hws
  obtain ⟨hb, hi1⟩ := c12q_step hi (wf_fresh hseen hws) hs
  exact ⟨next12q σ l, by simp only [monC12q, hb]; rfl, _, hi1, wf_seen hseen hws⟩

/-! ### non-vacuity of the monitor (the runs of `Wiring.current` are in `Props/C12QCurrent.lean`) -/

/-- bounded mailbox, three sends, everything handled, all returned -/
def c12qGood : List Label :=
  [ .cbBegin .started, .cbEnd .started true,
    .begin 0 0 (.send 7), .begin 1 0 (.send 8), .begin 2 0 (.send 9),
    .ret 0 .ok,
    .cbBegin (.handle 7), .cbEnd (.handle 7) true, .ret 1 .ok,
    .cbBegin (.handle 8), .cbEnd (.handle 8) true, .ret 2 .ok,
    .cbBegin (.handle 9), .cbEnd (.handle 9) true,
    .quiescent [] ]

example : monC12q.ok c12qGood = true := by decide
example : opIdsFresh c12qGood = true := by decide

/-- an await may be outstanding at quiescence, a send may not -/
example : monC12q.ok [ .begin 0 0 (.send 7), .ret 0 .ok, .begin 1 0 .await, .quiescent [1] ] = true := by decide
example : monC12q.ok [ .begin 0 0 (.send 7), .quiescent [0] ] = false := by decide
example : monC12q.ok [ .begin 0 0 .await, .begin 1 0 (.send 7), .begin 2 1 (.trySend 8), .ret 1 .ok,
    .quiescent [0, 2] ] = false := by decide
/-- the monitor never forgets a send: a returned send still listed as pending is rejected -/
example : monC12q.ok [ .begin 0 0 (.send 7), .ret 0 .ok, .quiescent [0] ] = false := by decide

end Hannibal
