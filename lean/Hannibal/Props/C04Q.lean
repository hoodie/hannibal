import Hannibal.Proofs.C04QInv
/-
  C04 (drain barrier): for every wiring in which strong handles own both channel closures and weak handles
  own nothing and need a live closure to upgrade (`WellWired05`; whichever path stop requests and sends
  take, and whether the loop notifies before or after `stopped()`), every run of the actor model whose
  labels use fresh message numbers and fresh operation ids (`wf01`) is accepted by `monC04q`:

  (a) a message whose submission began after an accepted stop request had returned is never handled, and a
      call carrying such a message returns an error;
  (b) at quiescence, if a stop request was accepted, the actor has not failed and is not a stream actor whose
      stream ended: the actor has terminated and every message whose `send` was acknowledged before the
      first stop request was issued has been handled.
-/
namespace Hannibal
open AState

/-- the wiring facts C04 (drain barrier) rests on: strong handles own both channel closures, weak handles
    own nothing and need a live closure to upgrade -/
def WellWired04q (w : Wiring) : Prop := WellWired05 w

instance (w : Wiring) : Decidable (WellWired04q w) := by unfold WellWired04q; infer_instance

/-- **C04 (stop is a drain barrier).**  In every run of the actor model — both mailbox kinds, every handle
    kind, waiting and forcing path, timers, restarts queued before the stop, every termination cause —
    whose trace never re-uses a message number or an operation id: nothing submitted after an accepted stop
    request had returned is ever handled, a call carrying such a message returns an error; and at
    quiescence after an accepted stop request (no failure, no ended stream) the actor has terminated and
    everything whose send was acknowledged before the first stop request has been handled. -/
theorem C04q_holds (w : Wiring) (hw : WellWired04q w) (c : MonCtx) (ls : List Label) (s : AState)
    (hr : run w (AState.init c.cfg c.h0 c.k0) ls = some s) (hwf : wf01 ls = true) :
    (monC04q c).ok ls = true := by
  -- the well-formedness automaton runs alongside, and so does the C01 monitor, as a ghost
  refine ok_of_run_lift_wf (monC04q c) monWf01 w (fun s σ g => ∃ σ1, C04qInv c s σ σ1 g) ?_ _
    ⟨_, c04q_init c⟩ ls s hr hwf
  intro s s' σ g g' l ⟨σ1, hi⟩ hs hg'
  obtain ⟨hg, rfl⟩ := monWf01_step hg'
  obtain ⟨hbad, hi'⟩ := c04q_step w hw c hi hs hg
  exact ⟨_, by rw [monC04q_step, hbad]; rfl, _, hi'⟩

def c04qCfg : Cfg := { cap := none, strat := .only, timeout := none, failOnTimeout := false, stream := false }
def c04qCtx : MonCtx := { cfg := c04qCfg, h0 := 0, k0 := .addr, prompt := true }

/-- message 1 is acknowledged before the stop request and handled before the loop leaves; the send of 2
    and the call of 3 begin after the accepted stop request returned: they queue up behind it, are never
    handled, the call is cancelled; the actor terminates gracefully and the system falls quiet -/
def c04qExample : List Label :=
  [ .cbBegin .started, .cbEnd .started true,
    .begin 0 0 (.send 1), .ret 0 .ok,
    .stopReq 0 true,
    .begin 1 0 (.send 2), .begin 2 0 (.call 3), .ret 1 .ok,
    .cbBegin (.handle 1), .cbEnd (.handle 1) true,
    .tDeq, .cbBegin .stopped, .cbEnd .stopped true, .taskDone,
    .ret 2 (.err .canceled),
    .quiescent [] ]

example : (monC04q c04qCtx).ok c04qExample = true := by decide
/-- the well-formedness hypothesis is satisfiable (by the same trace) -/
example : wf01 c04qExample = true := by decide

/-- (a) a message submitted after the accepted stop request returned is handled -/
example : (monC04q c04qCtx).ok [ .cbBegin .started, .cbEnd .started true, .stopReq 0 true,
    .begin 1 0 (.send 2), .cbBegin (.handle 2) ] = false := by decide
/-- (a) a call submitted after the accepted stop request returned gets a reply -/
example : (monC04q c04qCtx).ok [ .cbBegin .started, .cbEnd .started true, .stopReq 0 true,
    .begin 2 0 (.call 3), .ret 2 (.okReply { m := 3, birth := 0, digest := [3] }) ] = false := by decide
/-- (b) the loop leaves at the stop request although an acknowledged message was never handled -/
example : (monC04q c04qCtx).ok [ .cbBegin .started, .cbEnd .started true, .begin 0 0 (.send 1), .ret 0 .ok,
    .stopReq 0 true, .tDeq, .cbBegin .stopped, .cbEnd .stopped true, .taskDone, .quiescent [] ] = false := by
  decide
/-- (b) quiescence after an accepted stop request without termination -/
example : (monC04q c04qCtx).ok [ .cbBegin .started, .cbEnd .started true, .stopReq 0 true,
    .quiescent [] ] = false := by decide

end Hannibal
