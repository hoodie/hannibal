import Hannibal.Props.C01Current
import Hannibal.Props.C12
import Hannibal.Props.C04Q
import Hannibal.Props.C05Q
import Hannibal.Props.C06Send
/-
  `WeakSender::try_force_send` (`OpKind.tryForce`): upgrade the weak sender, then force-send.
  Non-vacuity examples for the wiring extracted from today's source: the operation never waits for
  mailbox space (it returns at once, also on a full bounded mailbox), its messages are handled in
  submission order, and it fails when the weak sender no longer upgrades or the mailbox is gone.
-/
namespace Hannibal

def tfCfg : Cfg := { cap := some 1, strat := .only, timeout := none, failOnTimeout := false, stream := false }
def tfCtx : MonCtx := { cfg := tfCfg, h0 := 0, k0 := .addr, prompt := true }

/-- capacity 1: message 1 (an ordinary `send`) fills the mailbox and is being handled; meanwhile the weak
    sender 1 force-sends 2 and 3, both operations return `Ok` immediately (nobody is parked), and the actor
    handles 1, 2, 3 in that order -/
def tfExample : List Label :=
  [ .cbBegin .started, .cbEnd .started true,
    .mk 0 1 .weakSender,
    .begin 0 0 (.send 1), .ret 0 .ok,
    .cbBegin (.handle 1),
    .begin 1 1 (.tryForce 2), .ret 1 .ok,
    .begin 2 1 (.tryForce 3), .ret 2 .ok,
    .cbEnd (.handle 1) true,
    .cbBegin (.handle 2), .cbEnd (.handle 2) true,
    .cbBegin (.handle 3), .cbEnd (.handle 3) true ]

example : (run Wiring.current (AState.init tfCfg 0 .addr) tfExample).isSome = true := by decide
example : (monC01 tfCtx).ok tfExample = true := by decide
example : wf01 tfExample = true := by decide
example : (monC12 (some 1)).ok tfExample = true := by decide

/-- the same on a rendezvous mailbox (capacity 0), submitted while `started` is still running -/
def tfCfg0 : Cfg := { tfCfg with cap := some 0 }
def tfExample0 : List Label :=
  [ .cbBegin .started,
    .mk 0 1 .weakSender,
    .begin 0 1 (.tryForce 1), .ret 0 .ok,
    .begin 1 1 (.tryForce 2), .ret 1 .ok,
    .cbEnd .started true,
    .cbBegin (.handle 1), .cbEnd (.handle 1) true,
    .cbBegin (.handle 2), .cbEnd (.handle 2) true ]

example : (run Wiring.current (AState.init tfCfg0 0 .addr) tfExample0).isSome = true := by decide
example : (monC01 { tfCtx with cfg := tfCfg0 }).ok tfExample0 = true := by decide
example : (monC12 (some 0)).ok tfExample0 = true := by decide

/-- contrast: the waiting twin `try_send` is parked in the same situation, the model refuses its `ret` … -/
example : (run Wiring.current (AState.init tfCfg0 0 .addr)
    [ .cbBegin .started, .mk 0 1 .weakSender, .begin 0 1 (.trySend 1), .ret 0 .ok ]).isSome = false := by decide
/-- … and handling out of submission order is what `monC01` flags for `tryForce` as for any acknowledged send -/
example : (monC01 tfCtx).ok
    [ .cbBegin .started, .cbEnd .started true, .mk 0 1 .weakSender, .begin 0 1 (.tryForce 1), .ret 0 .ok,
      .begin 1 1 (.tryForce 2), .ret 1 .ok, .cbBegin (.handle 2) ] = false := by decide
example : (run Wiring.current (AState.init tfCfg 0 .addr)
    [ .cbBegin .started, .cbEnd .started true, .mk 0 1 .weakSender, .begin 0 1 (.tryForce 1), .ret 0 .ok,
      .begin 1 1 (.tryForce 2), .ret 1 .ok, .cbBegin (.handle 2) ]).isSome = false := by decide

/-- no strong handle left: the weak sender no longer upgrades, the operation returns `AlreadyStopped` and
    nothing was submitted (the loop sees the channel end on an empty mailbox) -/
def tfDead : List Label :=
  [ .cbBegin .started, .cbEnd .started true,
    .mk 0 1 .weakSender, .drop 0,
    .begin 0 1 (.tryForce 5), .ret 0 (.err .alreadyStopped),
    .tChanEnd, .cbBegin .stopped, .cbEnd .stopped true, .taskDone ]

example : (run Wiring.current (AState.init tfCfg 0 .addr) tfDead).isSome = true := by decide
example : (monC01 tfCtx).ok tfDead = true := by decide
example : (monC12 (some 1)).ok tfDead = true := by decide
/-- `Ok` is refused there -/
example : (run Wiring.current (AState.init tfCfg 0 .addr) (tfDead.take 5 ++ [ .ret 0 .ok ])).isSome = false := by
  decide

/-- a strong handle is left but the actor has stopped: the upgrade succeeds, the mailbox refuses the message -/
def tfClosed : List Label :=
  [ .cbBegin .started, .cbEnd .started true,
    .mk 0 1 .weakSender, .stopReq 0 true, .tDeq, .cbBegin .stopped, .cbEnd .stopped true, .taskDone,
    .begin 0 1 (.tryForce 5), .ret 0 (.err .send) ]

example : (run Wiring.current (AState.init tfCfg 0 .addr) tfClosed).isSome = true := by decide
example : (monC01 tfCtx).ok tfClosed = true := by decide

/-- `monC05q` / `monC04q`: an acknowledged `tryForce` message is handled before the actor stops -/
def tfDrain : List Label :=
  [ .cbBegin .started, .cbEnd .started true, .mk 0 1 .weakSender,
    .begin 0 1 (.tryForce 7), .ret 0 .ok, .drop 0,
    .cbBegin (.handle 7), .cbEnd (.handle 7) true,
    .tChanEnd, .cbBegin .stopped, .cbEnd .stopped true, .taskDone, .quiescent [] ]

example : (run Wiring.current (AState.init c05Cfg 0 .addr) tfDrain).isSome = true := by decide
example : (monC05q c05Ctx).ok tfDrain = true := by decide
example : (monC05 c05Ctx).ok tfDrain = true := by decide
/-- skipped: rejected by `monC05q` (and by the model) -/
example : (monC05q c05Ctx).ok [ .cbBegin .started, .cbEnd .started true, .mk 0 1 .weakSender,
    .begin 0 1 (.tryForce 7), .ret 0 .ok, .drop 0,
    .tChanEnd, .cbBegin .stopped, .cbEnd .stopped true, .taskDone, .quiescent [] ] = false := by decide
example : (run Wiring.current (AState.init c05Cfg 0 .addr) [ .cbBegin .started, .cbEnd .started true,
    .mk 0 1 .weakSender, .begin 0 1 (.tryForce 7), .ret 0 .ok, .drop 0, .tChanEnd ]).isSome = false := by decide
/-- acknowledged before the stop request, never handled: rejected by `monC04q` -/
example : (monC04q c04qCtx).ok [ .cbBegin .started, .cbEnd .started true, .mk 0 1 .weakSender,
    .begin 0 1 (.tryForce 1), .ret 0 .ok,
    .stopReq 0 true, .tDeq, .cbBegin .stopped, .cbEnd .stopped true, .taskDone, .quiescent [] ] = false := by
  decide
/-- `monC06s`: begun after the failed actor's task is gone, it never returns `Ok` -/
example : (monC06s c06Ctx).ok [ .cbBegin .started, .cbPanic .started, .taskDone, .mk 0 1 .weakSender,
    .begin 1 1 (.tryForce 5), .ret 1 .ok ] = false := by decide
/-- `monC05` (3): while a `tryForce` is in flight its upgraded `Sender` is a strong holder, like that of a
    `try_send` in flight: another weak handle upgrades although every strong *handle* is gone -/
example : (run Wiring.current (AState.init c05Cfg 0 .addr) [ .cbBegin .started, .cbEnd .started true,
    .mk 0 1 .weakSender, .begin 0 1 (.tryForce 7), .drop 0, .upgrade 1 (some 2), .ret 0 .ok ]).isSome = true := by
  decide
example : (monC05 c05Ctx).ok [ .cbBegin .started, .cbEnd .started true,
    .mk 0 1 .weakSender, .begin 0 1 (.tryForce 7), .drop 0, .upgrade 1 (some 2), .ret 0 .ok ] = true := by decide

end Hannibal
