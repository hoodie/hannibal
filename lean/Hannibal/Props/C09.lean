import Hannibal.Proofs.C09Flight
/-
  Proof: a ghost global enqueue order `E = H ++ Q` (handled / still in the mailbox).  An operation that
  returned before another began was enqueued earlier (`enq_order`), hence handled earlier (FIFO); what is on
  its way to a subscriber plus what it has taken up is, per subscriber, strictly increasing in the handling
  position (`FlInv.f2`) - that gives (1), (3), (4); an entry `(c, m)` on its way remembers a `sub c` handled
  before `pub m` with no `unsub c` handled in between (`FlInv.f3`) - that gives (2).
-/
namespace Hannibal

structure C09Inv (s : BrSt) (σ : C09St) (W : List Nat) (H Q : List GE) : Prop where
  ops : OpsInv σ.ops σ.now W
  e : EInv σ.ops σ.now (H ++ Q)
  st : StInv s.pend s.sent σ.ops (H ++ Q)
  mb : s.mbox = Q.map (fun e => e.it)
  sub : SubInv s.subs H
  fl : FlInv σ.seq s.flight H

theorem defBefore_iff {x y : Op9} : defBefore x y = true ↔ ∃ r, x.tr = some r ∧ r < y.tb := by
  unfold defBefore
  cases x.tr <;> simp

theorem pubOf_spec {σ : C09St} {m : Nat} {P : Op9} (h : σ.pubOf m = some P) : P ∈ σ.ops ∧ P.it = .pub m := by
  unfold C09St.pubOf at h
  refine ⟨List.mem_of_find?_eq_some h, ?_⟩
  have := List.find?_some h
  simpa using this

theorem pubOf_eq {σ : C09St} {W : List Nat} {m : Nat} {P : Op9} (ho : OpsInv σ.ops σ.now W) (hP : P ∈ σ.ops)
    (hit : P.it = .pub m) : σ.pubOf m = some P := by
  cases h : σ.pubOf m with
  | none =>
    unfold C09St.pubOf at h
    have := List.find?_eq_none.mp h P hP
    simp [hit] at this
  | some P' =>
    obtain ⟨h1, h2⟩ := pubOf_spec h
    rw [ho.pu P' h1 P hP m h2 hit]

theorem pub_at {s : BrSt} {σ : C09St} {W : List Nat} {H Q : List GE} (hi : C09Inv s σ W H Q) {m : Nat}
    (hj : pidx H m < H.length) :
    ∃ e P, (H ++ Q)[pidx H m]? = some e ∧ e.it = .pub m ∧ P ∈ σ.ops ∧ P.tb = e.k ∧ P.it = .pub m ∧
      σ.pubOf m = some P := by
  obtain ⟨e, hH, hit⟩ := pidx_get hj
  have hE : (H ++ Q)[pidx H m]? = some e := getElem?_append_some hH
  obtain ⟨P, hP, hPk, hPi⟩ := hi.e.el e (List.mem_of_getElem? hE)
  exact ⟨e, P, hE, hit, hP, hPk, hPi.trans hit, pubOf_eq hi.ops hP (hPi.trans hit)⟩

theorem deliver_ok {s : BrSt} {σ : C09St} {W : List Nat} {H Q : List GE} (hi : C09Inv s σ W H Q)
    {c m : Nat} {f1 f2 : List (Nat × Nat)} (hf : s.flight = f1 ++ (c, m) :: f2) :
    bad09 σ (.deliver c m) = false := by
  have hmem : (c, m) ∈ s.flight := by simp [hf]
  obtain ⟨hpseq, _, hcross⟩ := List.pairwise_append.mp hi.fl.f2
  have hj : pidx H m < H.length := hi.fl.f1 (c, m) (List.mem_append_right _ hmem)
  obtain ⟨eP, P, hPE, hPit, hP, hPk, hPi, hpub⟩ := pub_at hi hj
  -- what subscriber `c` has taken up was handled before `m`
  have hbefore : ∀ p ∈ σ.seq, p.1 = c → pidx H p.2 < pidx H m := fun p hp hpc => hcross p hp (c, m) hmem hpc
  simp only [bad09, Bool.or_eq_false_iff, List.any_eq_false, Bool.and_eq_true, beq_iff_eq, Bool.not_eq_false',
    List.contains_eq_mem, decide_eq_false_iff_not, not_and, Bool.not_eq_true]
  refine ⟨⟨⟨fun hc => Nat.lt_irrefl _ (hbefore _ hc rfl), ?_⟩, fun p hp hpc => ?_⟩, fun p hp hpc => ?_⟩
  · -- (2): the subscribe `S` that `FlInv.f3` remembers for `(c, m)`
    obtain ⟨i, eS, hiP, hSH, hSit, hno⟩ := hi.fl.f3 (c, m) hmem
    have hSE : (H ++ Q)[i]? = some eS := getElem?_append_some hSH
    obtain ⟨S, hS, hSk, hSi⟩ := hi.e.el eS (List.mem_of_getElem? hSE)
    simp only [C09St.allowed, hpub, List.any_eq_true, Bool.and_eq_true, beq_iff_eq, Bool.not_eq_eq_eq_not,
      Bool.not_true, List.any_eq_false, not_and, Bool.not_eq_true]
    refine ⟨S, hS, ⟨hSi.trans hSit, ?_⟩, fun U hUm ⟨hUit, hSU⟩ => ?_⟩
    · unfold beganBeforeEnd
      cases hr : P.tr with
      | none => rfl
      | some r => simpa [hSk] using began_before hi.e hi.st hSE hPE (Nat.le_of_lt hiP) hP hPk.symm hr
    · -- an unsubscribe definitely between `S` and `P` would have been handled between them
      rw [Bool.eq_false_iff]
      intro hUP
      obtain ⟨r1, hr1, hlt1⟩ := defBefore_iff.mp hSU
      obtain ⟨r2, hr2, hlt2⟩ := defBefore_iff.mp hUP
      obtain ⟨u, eU, hu, hUk, hUi, _⟩ := closed_in_E hi.st hUm hr2
      obtain ⟨i', ex, hi'u, hi', hexk, _⟩ := enq_order hi.e hi.st hS hr1 hlt1 hu hUk
      obtain rfl : i' = i := key_inj hi.e.ek hi' hSE (hexk.trans hSk)
      obtain ⟨u', ex', hu'j, hu', hexk', _⟩ := enq_order hi.e hi.st hUm hr2 hlt2 hPE hPk.symm
      obtain rfl : u' = u := key_inj hi.e.ek hu' hu (hexk'.trans hUk.symm)
      exact hno u' eU hi'u hu'j ((List.getElem?_append_left (Nat.lt_trans hu'j hj)).symm.trans hu) (hUi.trans hUit)
  · -- (3): a publish definitely before that of `m` was enqueued, hence handled, before it
    obtain ⟨e2, P2, h2E, _, _, hP2k, _, hp2⟩ := pub_at hi (hi.fl.f1 p (List.mem_append_left _ hp))
    rw [Bool.eq_false_iff]
    intro hpb
    simp only [C09St.pubBefore, hpub, hp2] at hpb
    obtain ⟨r, hr, hrlt⟩ := defBefore_iff.mp hpb
    obtain ⟨i', ex, hi'lt, hi', _, hexit⟩ := enq_order hi.e hi.st hP hr hrlt h2E hP2k.symm
    have : i' = pidx H m := pubU_of hi.ops hi.e i' _ ex eP m hi' hPE (hexit.trans hPi) hPit
    have := hbefore p hp hpc
    omega
  · -- (4): `seq` lists what each subscriber took up in handling order
    rw [Bool.eq_false_iff]
    intro hoo
    simp only [C09St.otherOrder, List.any_eq_true, Bool.and_eq_true, beq_iff_eq] at hoo
    obtain ⟨q, _, _, hmatch⟩ := hoo
    split at hmatch
    · rename_i i1 i2 h1 h2
      have h12 := pw_get hpseq (idxOf_get h1) (idxOf_get h2) (by simpa using hmatch) rfl
      have := hbefore p hp hpc
      simp only at h12
      omega
    · cases hmatch

theorem wf_begin {W W' : List Nat} {o : Nat} {it : BItem} (h : wfC09.step W (.bbegin o it) = some W') :
    (∀ m ∈ W, m ∈ W') ∧ ∀ m, it = .pub m → m ∉ W ∧ m ∈ W' := by
  cases it with
  | pub m =>
    by_cases hm : m ∈ W <;> simp [wfC09, hm] at h
    subst h
    exact ⟨fun _ => List.mem_cons_of_mem _, fun m' h' => by cases h'; exact ⟨hm, List.mem_cons_self⟩⟩
  | _ => cases h; exact ⟨fun _ h => h, nofun⟩

theorem C09Inv.proc {s : BrSt} {σ : C09St} {W : List Nat} {H Q' : List GE} {e : GE} (hi : C09Inv s σ W H (e :: Q'))
    {subs' : List Nat} {flight' : List (Nat × Nat)} (hsub : SubInv subs' (H ++ [e]))
    (hfl : FlInv σ.seq flight' (H ++ [e])) :
    C09Inv { s with mbox := Q'.map (fun e => e.it), subs := subs', flight := flight' } σ W (H ++ [e]) Q' :=
  ⟨hi.ops, List.append_cons .. ▸ hi.e, List.append_cons .. ▸ hi.st, rfl, hsub, hfl⟩

def hnext (H Q : List GE) : BLabel → List GE
  | .bproc => H ++ Q.take 1
  | _ => H

theorem c09_step_h {s s' : BrSt} {σ : C09St} {W W' : List Nat} {H Q : List GE} {l : BLabel}
    (hi : C09Inv s σ W H Q) (hs : bstep s l = some s') (hw : wfC09.step W l = some W') :
    bad09 σ l = false ∧ ∃ Q', C09Inv s' (next09 σ l) W' (hnext H Q l) Q' := by
  cases bstep_cases hs with
  | bbegin o it hp hns =>
    obtain ⟨hW, hnew⟩ := wf_begin hw
    have hopen : ∀ x ∈ σ.ops, x.tr = none → x.o ≠ o := fun x hx hxo heq =>
      (st_open hi.st hx hxo).elim (fun h => hp _ h heq) (fun h => hns (heq ▸ h))
    exact ⟨rfl, Q, ops_begin hi.ops o it hopen hW hnew, e_begin hi.e _, st_begin hi.st hi.e hi.ops.t1 o it hns,
      hi.mb, hi.sub, hi.fl⟩
  | benq o it hpm =>
    cases hw
    obtain ⟨y, hy, rfl, rfl, hytr⟩ := hi.st.pl _ hpm
    have hne : ∀ e ∈ H ++ Q, e.k ≠ y.tb := by
      rcases hi.st.st y hy with ⟨_, _, h3⟩ | ⟨e, _, _, _, h3, _⟩
      · exact h3
      · exact absurd (h3 hytr) (hi.st.d1 _ hpm)
    refine ⟨rfl, Q ++ [⟨y.tb, y.it, σ.now⟩], hi.ops, ?_, ?_, by simp [hi.mb], hi.sub, hi.fl⟩
    · rw [← List.append_assoc]; exact e_enq hi.e hy (hi.ops.t1 y hy) hne
    · rw [← List.append_assoc]; exact st_enq hi.st hi.ops hy hytr σ.now
  | bret o hos =>
    cases hw
    exact ⟨rfl, Q, ops_ret hi.ops o, e_ret hi.e o, st_ret hi.st hi.e o hos, hi.mb, hi.sub, hi.fl⟩
  | procSub c rest hm =>
    cases hw
    obtain ⟨e, Q', rfl, he, rfl⟩ := List.map_eq_cons_iff.mp (hi.mb.symm.trans hm)
    exact ⟨rfl, Q', hi.proc (sub_sub hi.sub he) (fl_append hi.fl e)⟩
  | procUnsub c rest hm =>
    cases hw
    obtain ⟨e, Q', rfl, he, rfl⟩ := List.map_eq_cons_iff.mp (hi.mb.symm.trans hm)
    exact ⟨rfl, Q', hi.proc (sub_unsub hi.sub he) (fl_append hi.fl e)⟩
  | procPub m rest hm =>
    cases hw
    obtain ⟨e, Q', rfl, he, rfl⟩ := List.map_eq_cons_iff.mp (hi.mb.symm.trans hm)
    have hU : PubU (H ++ [e]) := PubU.left (Q := Q') (List.append_cons .. ▸ pubU_of hi.ops hi.e)
    exact ⟨rfl, Q', hi.proc (sub_pub hi.sub he) (fl_pub hi.fl hi.sub he hU _)⟩
  | deliver c m f1 f2 hd hf hn =>
    cases hw
    exact ⟨deliver_ok hi hf, Q, ops_tick hi.ops, e_tick hi.e, hi.st, hi.mb, hi.sub, fl_deliver (hf ▸ hi.fl) hn⟩
  | term c =>
    cases hw
    exact ⟨rfl, Q, ops_tick hi.ops, e_tick hi.e, hi.st, hi.mb, hi.sub, fl_sub hi.fl List.filter_sublist⟩

theorem c09_step {s s' : BrSt} {σ : C09St} {W W' : List Nat} {H Q : List GE} {l : BLabel}
    (hi : C09Inv s σ W H Q) (hs : bstep s l = some s') (hw : wfC09.step W l = some W') :
    bad09 σ l = false ∧ ∃ H' Q', C09Inv s' (next09 σ l) W' H' Q' :=
  (c09_step_h hi hs hw).imp_right fun h => ⟨_, h⟩

theorem c09_init : C09Inv BrSt.init monC09.init wfC09.init [] [] := by
  refine ⟨⟨?_, ?_, ?_, ?_, ?_⟩, ⟨?_, ?_, ?_, ?_⟩, ⟨?_, ?_, ?_⟩, rfl, ⟨?_, ?_⟩, ⟨?_, ?_, ?_⟩⟩ <;>
    simp [monC09, BrSt.init]

theorem run_lockstep {P : BrSt → C09St → List Nat → Prop}
    (step : ∀ {s σ W l s' W'}, P s σ W → bstep s l = some s' → wfC09.step W l = some W' →
      bad09 σ l = false ∧ P s' (next09 σ l) W')
    {ls : List BLabel} {s s' : BrSt} {σ : C09St} {W W' : List Nat} (hp : P s σ W) (hr : brun s ls = some s')
    (hw : wfC09.run W ls = some W') : ∃ σ', monC09.run σ ls = some σ' ∧ P s' σ' W' := by
  fun_induction brun s ls generalizing σ W with
  | case1 s => cases hr; cases hw; exact ⟨σ, rfl, hp⟩
  | case2 s l ls s1 hs ih =>
    simp only [BMon.run] at hw ⊢
    split at hw
    · rename_i W1 hw1
      obtain ⟨hb, hp1⟩ := step hp hs hw1
      have : monC09.step σ l = some (next09 σ l) := by simp [monC09, hb]
      rw [this]; exact ih hp1 hr hw
    · cases hw
  | case3 => cases hr

/-- C09 (broker: at most once, only to subscribers, one common order extending every publisher's order):
every run of the broker model - any number of clients, subscribers and publications, operations begun,
enqueued, handled and returning in any interleaving with deliveries and terminations - in which no
publication number is published twice (`wf09`) is accepted by `monC09`, all four clauses. -/
theorem C09_holds (ls : List BLabel) (s : BrSt) (hr : brun BrSt.init ls = some s) (hwf : wf09 ls = true) :
    monC09.ok ls = true := by
  obtain ⟨W', hw⟩ := Option.isSome_iff_exists.mp hwf
  obtain ⟨σ', hm, _⟩ := run_lockstep (P := fun s σ W => ∃ H Q, C09Inv s σ W H Q)
    (fun ⟨_, _, hi⟩ hs hw => (c09_step hi hs hw)) ⟨_, _, c09_init⟩ hr hw
  exact Option.isSome_iff_exists.mpr ⟨σ', hm⟩

/-- two subscribers, two concurrent publications handled in the opposite order of their begins, an
    unsubscribe, a third publication, a termination -/
def c09Example : List BLabel :=
  [ .bbegin 0 (.sub 1), .benq 0, .bproc, .bret 0, .bbegin 1 (.sub 2), .benq 1, .bret 1, .bproc,
    .bbegin 2 (.pub 5), .bbegin 3 (.pub 6), .benq 3, .benq 2, .bret 2, .bproc, .bproc, .bret 3,
    .deliver 1 6, .deliver 2 6, .deliver 1 5, .bbegin 4 (.unsub 1), .benq 4, .bproc, .bret 4,
    .bbegin 5 (.pub 7), .benq 5, .bproc, .bret 5, .deliver 2 5, .deliver 2 7, .term 2,
    .bbegin 0 (.sub 1), .benq 0, .bret 0 ]      -- operation ids may be reused once the operation returned

/-- the hypotheses of `C09_holds` are satisfiable by a non-trivial run -/
example : (brun BrSt.init c09Example).isSome = true ∧ wf09 c09Example = true := by decide
example : monC09.ok c09Example = true := by decide

/-- the monitor rejects: a publication taken up twice (1) -/
example : monC09.ok [ .bbegin 0 (.sub 1), .bret 0, .bbegin 1 (.pub 5), .bret 1, .deliver 1 5, .deliver 1 5 ] = false := by
  decide
/-- a delivery to an actor that never subscribed (2) -/
example : monC09.ok [ .bbegin 0 (.pub 5), .bret 0, .deliver 1 5 ] = false := by decide
/-- a delivery although the unsubscribe returned before the publish began (2) -/
example : monC09.ok [ .bbegin 0 (.sub 1), .bret 0, .bbegin 1 (.unsub 1), .bret 1, .bbegin 2 (.pub 5), .bret 2,
    .deliver 1 5 ] = false := by decide
/-- ... but not while the unsubscribe is still running -/
example : monC09.ok [ .bbegin 0 (.sub 1), .bret 0, .bbegin 1 (.unsub 1), .bbegin 2 (.pub 5), .bret 1, .bret 2,
    .deliver 1 5 ] = true := by decide
/-- a publisher's own order is not respected (3) -/
example : monC09.ok [ .bbegin 0 (.sub 1), .bret 0, .bbegin 1 (.pub 5), .bret 1, .bbegin 2 (.pub 6), .bret 2,
    .deliver 1 6, .deliver 1 5 ] = false := by decide
/-- two subscribers see two concurrent publications in different orders (4) -/
example : monC09.ok [ .bbegin 0 (.sub 1), .bret 0, .bbegin 1 (.sub 2), .bret 1, .bbegin 2 (.pub 5), .bbegin 3 (.pub 6),
    .bret 2, .bret 3, .deliver 1 5, .deliver 1 6, .deliver 2 6, .deliver 2 5 ] = false := by decide

/-- `wf09` is needed: the model allows publishing the same publication number twice, the subscriber then
    takes "it" up twice, which clause (1) (and the identification of a delivery's publish operation by its
    number in clauses (2) - (4)) cannot tell from a duplicate delivery. -/
def c09Dup : List BLabel :=
  [ .bbegin 0 (.sub 1), .benq 0, .bproc, .bret 0, .bbegin 1 (.pub 5), .benq 1, .bproc, .bret 1, .deliver 1 5,
    .bbegin 2 (.pub 5), .benq 2, .bproc, .bret 2, .deliver 1 5 ]
example : (brun BrSt.init c09Dup).isSome = true ∧ wf09 c09Dup = false ∧ monC09.ok c09Dup = false := by decide

end Hannibal
