import Hannibal.Props.C02
import Hannibal.Proofs.Guarded
/-
  C02 for guarded runs (the runs the acceptor accepts): the assumption `noCancelAfterStopped` of
  `C02t_holds` is a theorem there, so the property as first written (`monC02orig`, including "an await
  begun after a graceful termination returns Ok") holds with the freshness hypothesis alone.
-/
namespace Hannibal
open AState

/-- one guarded step: the flag of `monC02nc` is up only in phases from which no cancel is possible -/
theorem nc_step {w : Wiring} {s s' : AState} {g : Bool} {l : Label}
    (hi : g = true → gracePhase s.phase = true) (hs : gstep w s l = some s') :
    ∃ g', (monC02nc default).step g l = some g' ∧ (g' = true → gracePhase s'.phase = true) := by
  have hst := gstep_step hs
  have hc : l = .cancel → g = false := by
    rintro rfl
    cases g
    · rfl
    · -- a guarded run admits no `cancel` between the loop's return and the end of its task, nor inside `refresh`
      have hp := hi rfl
      have hal := gstep_allows hs
      simp only [step, stepCancel] at hst
      cases hph : s.phase <;> simp [hph, gracePhase, Phase.allows, isDone] at hp hal hst
  -- `monC02nc_step` reads only the `graceful` field
  exact ⟨_, monC02nc_step default { C02St.init with graceful := g } hc, gracePhase_step w hst hc hi⟩

theorem noCancel_of_grun (w : Wiring) (c : MonCtx) (ls : List Label) (s : AState)
    (hr : grun w (AState.init c.cfg c.h0 c.k0) ls = some s) : noCancelAfterStopped ls = true := by
  obtain ⟨_, hm, -⟩ := (grun_folds w).sim (monC02nc default).run_folds
    (fun s g => g = true → gracePhase s.phase = true) (fun _ _ _ _ hi hs => nc_step hi hs) ls _ s false nofun hr
  exact Option.isSome_iff_exists.mpr ⟨_, hm⟩

/-- **C02 as first written, for guarded runs**: no double return, replies are the own handler's, late
    operations err - and an await begun after a graceful termination returns Ok -, nothing hangs. -/
theorem C02g_holds (w : Wiring) (hw : w.notifyAfterStopped = true) (c : MonCtx) (ls : List Label) (s : AState)
    (hr : grun w (AState.init c.cfg c.h0 c.k0) ls = some s) (hfresh : opIdsFresh ls = true) :
    (monC02orig c).ok ls = true :=
  C02orig_holds w hw c ls s (grun_run ls _ s hr) hfresh (noCancel_of_grun w c ls s hr)

end Hannibal
