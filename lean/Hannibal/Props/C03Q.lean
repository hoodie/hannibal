import Hannibal.Proofs.C03Q
import Hannibal.Proofs.Run
import Hannibal.Monitor.C03
/-
  C03q (graceful end): every run of the actor model is accepted by `monC03q`.  No wiring hypothesis.

  An accepted stop request puts a `stop` entry into the mailbox of a loop whose receiver exists; the entry
  stays there until the loop takes it (and leaves) or the loop task ends.  A quiet state has the loop parked
  on an empty mailbox or the task done; hence after an accepted stop request a quiet state is a state of a
  finished task, and absent failure events the task ended through a completed `stopped`.
-/
namespace Hannibal
open AState

def next03q (c : MonCtx) (σ : C03qSt) (l : Label) : C03qSt :=
  { graceful := isStopAcc l || σ.graceful,
    sawFailure := l.fails c.cfg.failOnTimeout || σ.sawFailure,
    ended := (match l with | .taskDone => σ.stoppedDone | _ => σ.ended),
    stoppedDone := (match l with | .cbEnd .stopped _ => true | .cbBegin _ => false | _ => σ.stoppedDone) }

theorem mon03q_eq (c : MonCtx) (σ : C03qSt) (l : Label) (hl : ∀ p, l ≠ .quiescent p) :
    (monC03q c).step σ l = some (next03q c σ l) := by
  cases l
  case quiescent p => exact absurd rfl (hl p)
  case cbAbandon cb =>
    cases hf : c.cfg.failOnTimeout <;> simp [monC03q, next03q, isStopAcc, Label.fails, Label.isFailure, hf]
  case stopReq _ ok | ctxStop ok => cases ok <;> rfl
  case cbEnd cb ok => cases cb <;> cases ok <;> rfl
  all_goals rfl

structure C03qInv (c : MonCtx) (s : AState) (σ : C03qSt) : Prop where
  cfg : s.cfg = c.cfg
  fin : endOk σ.sawFailure σ.stoppedDone s.phase = true
  ended : s.phase = .done true → σ.ended = true
  stop : σ.graceful = true → σ.sawFailure = false → loopAlive s.phase = true → 0 < cntP isStopP s

theorem c03q_step (w : Wiring) (c : MonCtx) {s s' : AState} {σ : C03qSt} {l : Label}
    (hi : C03qInv c s σ) (hs : step w s l = some s') :
    ∃ σ', (monC03q c).step σ l = some σ' ∧ C03qInv c s' σ' := by
  by_cases hq : ∃ p, l = .quiescent p
  · obtain ⟨p, rfl⟩ := hq
    obtain ⟨hquiet, -, -, rfl⟩ := stepQuiescent_cases hs
    refine ⟨σ, if_neg ?_, hi⟩
    simp only [Bool.and_eq_true, Bool.not_eq_true', not_and, Bool.not_eq_false]
    intro ⟨hg, hf⟩
    rcases quiet_phase hquiet with ⟨g, hp⟩ | ⟨hp, hqe, -⟩
    · have hfin := hi.fin
      rw [hp] at hfin
      cases g
      · exact absurd hfin (by simp [endOk, hf])
      · exact hi.ended hp
    · -- the loop is parked on an empty mailbox: the accepted `stop` request cannot be in it
      have := hi.stop hg hf (by rw [hp]; rfl)
      simp [cntP, hqe] at this
  · have hnq : ∀ p, l ≠ .quiescent p := fun p e => hq ⟨p, e⟩
    refine ⟨next03q c σ l, mon03q_eq c σ l hnq, (step_cfg hs).trans hi.cfg, ?_, ?_, ?_⟩
    · refine endOk_step hi.fin hs (fun h => by simp [next03q, h])
        (fun h => by simp [next03q, ← hi.cfg, h]) ?_ ?_
      · intro hb hd
        cases l <;> first | exact hd | skip
        case cbBegin => cases hb
        case cbEnd cb ok => cases cb <;> first | exact hd | rfl
      · rintro rfl; rfl
    · intro hp'
      rcases step_doneTrue hs hp' with ⟨h1, h2, -⟩ | ⟨rfl, h1⟩
      · have := hi.ended h1
        cases l <;> first | exact this | exact absurd rfl h2
      · have := hi.fin
        rwa [h1] at this
    · intro hg hf hl
      simp only [next03q, Bool.or_eq_true, Bool.or_eq_false_iff] at hg hf
      rcases hg with hacc | hg
      · exact stopAcc_cnt hs hacc
      · exact Nat.lt_of_lt_of_le (hi.stop hg hf.2 (alive_mono hs hl)) (step_stop_keep hs hl)

theorem c03q_init (c : MonCtx) : C03qInv c (AState.init c.cfg c.h0 c.k0) (monC03q c).init :=
  ⟨rfl, rfl, nofun, nofun⟩

/-- **C03q (graceful end).** For every client program, interleaving, restart strategy, plain or
    stream-attached loop: whenever nothing about the actor can move any more (`quiescent`), if a stop request
    was accepted (`Addr::stop` / `WeakAddr::try_stop` / `Context::stop` returning `Ok`) and no failure event
    occurred (no panic in a callback or in the task, no cancellation, no failed `started`, no abandoned handler
    under `fail_on_timeout`), then the actor's task has ended, and it ended right after a completed `stopped`
    callback with no other callback begun in between. -/
theorem C03q_holds (w : Wiring) (c : MonCtx) (ls : List Label) (s : AState)
    (hr : run w (AState.init c.cfg c.h0 c.k0) ls = some s) : (monC03q c).ok ls = true :=
  ok_of_run_lift (monC03q c) w (C03qInv c) (fun _ _ _ _ hi hs => c03q_step w c hi hs) _ (c03q_init c) ls s hr

/-- Non-vacuity: a stop request behind a message, the actor ends gracefully and is then quiescent; a
    quiescent point with the stop request still unserved, and an end that skipped `stopped`, are flagged. -/
def c03qCfg : Cfg := { cap := none, strat := .only, timeout := none, failOnTimeout := false, stream := false }
def c03qCtx : MonCtx := { cfg := c03qCfg, h0 := 0, k0 := .addr, prompt := true }
def c03qExample : List Label :=
  [ .cbBegin .started, .cbEnd .started true, .begin 0 0 (.send 1), .stopReq 0 true, .ret 0 .ok,
    .cbBegin (.handle 1), .cbEnd (.handle 1) true, .tDeq, .cbBegin .stopped, .cbEnd .stopped true, .taskDone,
    .drop 0, .quiescent [] ]
example : (monC03q c03qCtx).ok c03qExample = true := by decide
example : (monC03q c03qCtx).ok [ .cbBegin .started, .cbEnd .started true, .stopReq 0 true, .quiescent [] ] = false := by
  decide
example : (monC03q c03qCtx).ok [ .cbBegin .started, .cbEnd .started true, .stopReq 0 true, .tDeq, .taskDone,
    .quiescent [] ] = false := by decide
example : (monC03q c03qCtx).ok [ .cbBegin .started, .cbEnd .started true, .stopReq 0 true, .tDeq,
    .cbBegin .stopped, .cbEnd .stopped true, .cbBegin .started, .taskDone, .quiescent [] ] = false := by decide

end Hannibal
