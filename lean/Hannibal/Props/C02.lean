import Hannibal.Proofs.C02Quiet
import Hannibal.Proofs.C02Split
import Hannibal.Proofs.C02Strict
import Hannibal.Proofs.RunGuard
/-
  C02 (calls return their own handler's result; every operation resolves): for every wiring whose loop
  notifies after `stopped()`, every run of the actor model whose `begin` labels carry pairwise distinct
  operation ids is accepted by `monC02`:
    * no operation returns twice;
    * (a) an `Ok(r)` returned to a call is the reply produced by the completed handler invocation for the
      call's own message, and only call-like operations get one;
    * (c) an operation begun after termination completes with an error (join: none / the value; await: the
      termination result, an error whenever the termination was not graceful);
    * (d) at quiescence nothing is pending except awaiting / joining a live actor: nothing hangs.
  The remainder of (c) — "an await begun after a termination that followed a completed `stopped` returns
  Ok" (`monC02t`) — is false of unguarded runs (witness `c02AwaitWitness` below) and proved for guarded runs in
  Props/C02Guarded.lean.
-/
namespace Hannibal
open AState

structure C02Inv (s : AState) (σ : C02St) : Prop extends Core02 s σ where
  grace : gracefulEnd s.phase = true → σ.graceful = true
  tinv : TermInv s
  wf : s.chan.WF
  wait : WaitInv s

theorem c02_step (w : Wiring) (hw : w.notifyAfterStopped = true) {s s' : AState} {σ : C02St} {l : Label}
    (hi : C02Inv s σ) (hf : freshFor σ l) (hs : step w s l = some s') :
    bad02 σ l = false ∧ C02Inv s' (next02 σ l) := by
  refine ⟨?_, core02_step hi.toCore02 hf hs, grace_step w hs hi.grace, termInv_step w hw hs hi.tinv,
    (step_chan hs).wf hi.wf, waitInv_step hs (slotCb_of_phaseOk hi.phase) hi.wait⟩
  cases l <;> first | rfl | skip
  case ret o res =>
    obtain ⟨rec, hfind, hexp, -, -⟩ := stepRet_ops hs
    exact ret_accept hfind hexp (hi.ops rec (findOp_some_mem hfind).1) hi.tinv hi.grace
  case quiescent pend => exact quiescent_accept hs hi.ops hi.wait hi.wf hi.dchan hi.tinv hi.term

theorem c02_init (c : MonCtx) : C02Inv (AState.init c.cfg c.h0 c.k0) (monC02 c).init :=
  ⟨core02_init .., nofun, termInv_init .., Chan.wf_init _, waitInv_init ..⟩

def SeenOk (σ : C02St) (seen : List Nat) : Prop :=
  ∀ o, (lookup o σ.ops).isSome = true → seen.contains o = true

theorem wf_fresh {c : MonCtx} {σ : C02St} {seen seen1 : List Nat} {l : Label} (hseen : SeenOk σ seen)
    (hws : (monC02wf c).step seen l = some seen1) : freshFor σ l := by
  cases l <;> simp only [freshFor]
  rename_i o h k
  simp only [monC02wf] at hws
  split at hws
  · simp at hws
  · rename_i hc
    cases hl : lookup o σ.ops with
    | none => rfl
    | some v => exact absurd (hseen o (by simp [hl])) hc

theorem wf_seen {c : MonCtx} {σ : C02St} {seen seen1 : List Nat} {l : Label} (hseen : SeenOk σ seen)
    (hws : (monC02wf c).step seen l = some seen1) : SeenOk (next02 σ l) seen1 := by
  intro o ho
  cases l
  case begin o' h k =>
    simp only [monC02wf] at hws
    split at hws
    · simp at hws
    · simp at hws; subst hws
      simp only [next02_ops, lookup] at ho
      by_cases he : o' = o
      · simp [he]
      · simp [he] at ho
        have := hseen o (by simpa using ho)
        simp at this ⊢
        exact .inr this
  all_goals
    (simp only [monC02wf] at hws; simp at hws; subst hws
     exact hseen o (by simpa using ho))

theorem seenOk_init : SeenOk C02St.init [] := by
  intro o ho; simp [C02St.init, lookup] at ho

/-- **C02.** For every wiring whose loop notifies after `stopped()`, every run of the actor model whose
    `begin` labels carry pairwise distinct operation ids is accepted by `monC02`. -/
theorem C02_holds (w : Wiring) (hw : w.notifyAfterStopped = true) (c : MonCtx) (ls : List Label) (s : AState)
    (hr : run w (AState.init c.cfg c.h0 c.k0) ls = some s) (hfresh : opIdsFresh ls = true) :
    (monC02 c).ok ls = true :=
  ok_of_run_lift_wf (monC02 c) (monC02wf c) w (fun s σ seen => C02Inv s σ ∧ SeenOk σ seen)
    (fun s s' σ seen seen' l ⟨hi, hseen⟩ hs hws => by
      obtain ⟨hb, hi'⟩ := c02_step w hw hi (wf_fresh hseen hws) hs
      exact ⟨_, by simp [monC02, hb], hi', wf_seen hseen hws⟩)
    _ ⟨c02_init c, seenOk_init⟩ ls s hr hfresh

/-- The remainder of clause (c) (`monC02t`) holds of every run in which, in addition, the loop task is not
    cancelled between the end of `stopped` and its next callback / its end. -/
theorem C02t_holds (w : Wiring) (hw : w.notifyAfterStopped = true) (c : MonCtx) (ls : List Label) (s : AState)
    (hr : run w (AState.init c.cfg c.h0 c.k0) ls = some s) (hfresh : opIdsFresh ls = true)
    (hnc : noCancelAfterStopped ls = true) : (monC02t c).ok ls = true := by
  -- `monC02nc` runs alongside on the `graceful` flag; while it is up the loop is past `stopped`
  refine ok_of_run_lift_wf (monC02t c) ((monC02wf c).prod (monC02nc c)) w
    (fun s σ x =>
      C02Inv s σ ∧ SeenOk σ x.1 ∧ x.2 = σ.graceful ∧ (σ.graceful = true → gracePhase s.phase = true))
    ?_ _ ⟨c02_init c, seenOk_init, rfl, nofun⟩ ls s hr ?_
  · rintro s s' σ ⟨seen, g⟩ x' l ⟨hi, hseen, hg, hgp⟩ hs hx
    obtain ⟨hws, hns⟩ := Mon.prod_step_some hx
    obtain rfl : g = σ.graceful := hg
    have hcancel : l = .cancel → σ.graceful = false := fun hl => monC02nc_cancel (hl ▸ hns)
    obtain ⟨-, hi'⟩ := c02_step w hw hi (wf_fresh hseen hws) hs
    have hb : bad02t σ l = false := by
      cases l <;> first | rfl | skip
      obtain ⟨rec, hfind, hexp, -, -⟩ := stepRet_ops hs
      exact ret_accept_t hfind hexp (hi.ops rec (findOp_some_mem hfind).1) hi.tinv hgp
    exact ⟨_, by simp [monC02t, hb], hi', wf_seen hseen hws,
      Option.some.inj (hns.symm.trans (monC02nc_step c σ hcancel)), gracePhase_step w hs hcancel hgp⟩
  · rw [Mon.prod_ok]
    exact (Bool.and_eq_true _ _).mpr ⟨hfresh, hnc⟩

/-- `monC02` and `monC02t` together are exactly the property as first written. -/
theorem C02_split (c : MonCtx) (ls : List Label) :
    (monC02orig c).ok ls = ((monC02 c).ok ls && (monC02t c).ok ls) := monC02_split c ls

/-- Hence the property as first written holds of the runs that satisfy both assumptions. -/
theorem C02orig_holds (w : Wiring) (hw : w.notifyAfterStopped = true) (c : MonCtx) (ls : List Label) (s : AState)
    (hr : run w (AState.init c.cfg c.h0 c.k0) ls = some s) (hfresh : opIdsFresh ls = true)
    (hnc : noCancelAfterStopped ls = true) : (monC02orig c).ok ls = true := by
  rw [C02_split, C02_holds w hw c ls s hr hfresh, C02t_holds w hw c ls s hr hfresh hnc]; rfl

def c02Cfg : Cfg := { cap := none, strat := .only, timeout := none, failOnTimeout := false, stream := false }
def c02Ctx : MonCtx := { cfg := c02Cfg, h0 := 0, k0 := .addr, prompt := true }

/-- a call answered by its own handler, a ping, a send, an await pending at a first quiescence on the live
    actor, graceful stop, operations begun after termination, a final quiescence with nothing pending -/
def c02Example : List Label :=
  [ .cbBegin .started, .cbEnd .started true,
    .begin 0 0 (.call 1), .begin 1 0 .ping, .begin 2 0 .await, .begin 5 0 (.send 7),
    .cbBegin (.handle 1), .cbEnd (.handle 1) true, .ret 0 (.okReply { m := 1, birth := 0, digest := [1] }),
    .tDeq, .ret 1 .ok, .ret 5 .ok, .cbBegin (.handle 7), .cbEnd (.handle 7) true,
    .quiescent [2],
    .stopReq 0 true, .tDeq, .cbBegin .stopped, .cbEnd .stopped true, .taskDone,
    .ret 2 .ok,
    .begin 3 0 (.call 9), .ret 3 (.err .send), .begin 4 0 .await, .ret 4 .ok,
    .quiescent [] ]

example : (monC02 c02Ctx).ok c02Example = true := by decide
example : (monC02t c02Ctx).ok c02Example = true := by decide
/-- the well-formedness hypothesis is satisfiable (and holds of the example) -/
example : opIdsFresh c02Example = true := by decide
example : noCancelAfterStopped c02Example = true := by decide

/-- swapped replies: the reply computed for message 1 handed to the call for message 2 -/
example : (monC02 c02Ctx).ok [ .cbBegin .started, .cbEnd .started true, .begin 0 0 (.call 1), .begin 1 0 (.call 2),
    .cbBegin (.handle 1), .cbEnd (.handle 1) true,
    .ret 1 (.okReply { m := 1, birth := 0, digest := [1] }) ] = false := by decide
/-- an invented reply: Ok for a message whose handler invocation never completed -/
example : (monC02 c02Ctx).ok [ .cbBegin .started, .cbEnd .started true, .begin 0 0 (.call 1),
    .ret 0 (.okReply { m := 1, birth := 0, digest := [1] }) ] = false := by decide
/-- a duplicated response -/
example : (monC02 c02Ctx).ok [ .cbBegin .started, .cbEnd .started true, .begin 0 0 (.call 1),
    .cbBegin (.handle 1), .cbEnd (.handle 1) true, .ret 0 (.okReply { m := 1, birth := 0, digest := [1] }),
    .ret 0 (.okReply { m := 1, birth := 0, digest := [1] }) ] = false := by decide
/-- a call left hanging at quiescence -/
example : (monC02 c02Ctx).ok [ .cbBegin .started, .cbEnd .started true, .begin 0 0 (.call 1),
    .cbBegin (.handle 1), .cbEnd (.handle 1) true, .quiescent [0] ] = false := by decide
/-- a send on a terminated actor reported as delivered -/
example : (monC02 c02Ctx).ok [ .cbBegin .started, .cbEnd .started true, .cancel, .begin 0 0 (.send 1),
    .ret 0 .ok ] = false := by decide
/-- an await left hanging after termination -/
example : (monC02 c02Ctx).ok [ .cbBegin .started, .cbEnd .started true, .begin 0 0 .await, .cancel,
    .quiescent [0] ] = false := by decide

/-! ### the part of (c) that is false of the model

  The model lets `cancel` strike after the `stopped` callback has returned and before the loop task has
  finished (phase `exiting true`), or between `stopped` and `started` of a restart: the latch is then
  dropped, and an await begun afterwards gets the termination error although the last callback event was a
  completed `stopped`.  `monC02orig` (hence `monC02t`) rejects these runs of the model. -/

def c02AwaitWitness : List Label :=
  [ .cbBegin .started, .cbEnd .started true, .stopReq 0 true, .tDeq, .cbBegin .stopped, .cbEnd .stopped true,
    .cancel, .begin 1 0 .await, .ret 1 (.err .canceled) ]
def c02AwaitWitness2 : List Label :=
  [ .cbBegin .started, .cbEnd .started true, .restartReq 0 true, .tDeq, .cbBegin .stopped, .cbEnd .stopped true,
    .cancel, .begin 1 0 .await, .ret 1 (.err .canceled) ]

example : (monC02orig c02Ctx).ok c02AwaitWitness = false := by decide
example : (monC02t c02Ctx).ok c02AwaitWitness = false := by decide
example : (monC02 c02Ctx).ok c02AwaitWitness = true := by decide
example : opIdsFresh c02AwaitWitness = true := by decide
example : (monC02t c02Ctx).ok c02AwaitWitness2 = false := by decide
example : noCancelAfterStopped c02AwaitWitness = false := by decide

/-- why the hypothesis on operation ids is needed: the model lets an id be reused after `cdrop`, and the
    reply for the first call's message then reaches the second call -/
def c02ReuseWitness : List Label :=
  [ .cbBegin .started, .cbEnd .started true, .begin 0 0 (.call 1), .cdrop 0, .begin 0 0 (.call 2),
    .cbBegin (.handle 1), .cbEnd (.handle 1) true, .ret 0 (.okReply { m := 1, birth := 0, digest := [1] }) ]
example : (monC02 c02Ctx).ok c02ReuseWitness = false := by decide
example : opIdsFresh c02ReuseWitness = false := by decide

end Hannibal
