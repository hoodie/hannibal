import Hannibal.Props.C09Q
/-
  C09, progress (broker): "terminated subscribers neither block nor fail a publish; the broker never waits for a
  subscriber that is gone".

  From EVERY reachable state of the broker model - whatever subscribers have terminated, at whatever point - there is
  a continuation that uses only the broker's own moves (`benq`, `bproc`), take-ups by subscribers that are alive
  (`deliver c m` with `c ∉ dead`) and returns (`bret`), needs no new client operation and no further termination,
  and ends in a settled state (`pend = mbox = flight = []`) in which every begun operation has returned (`sent = []`).

  Schedule (four uses of `drain09p`, each with the move that lowers its measure):
    1. `benq` the head of `pend` until `pend = []`       (`move_enq09p`)
    2. `bproc` until `mbox = []`                          (`move_proc09p`)
    3. `deliver` the head of `flight` until `flight = []` (`move_deliver09p`; needs `NoDeadFl09p`: nothing is on its
       way to a dead subscriber - `bproc` skips dead subscribers, `term c` drops what was on its way to `c`)
    4. `bret` the head of `sent` until `sent = []`        (`move_ret09p`)
  The measures of phases 1 and 4 are the lengths of `pend` / `sent` (`filter` removes at least the head), so no
  uniqueness invariant on operation ids is needed.  That `dead` does not change and that no `deliver` of the
  continuation goes to a dead subscriber follows for *every* accepted progress list (`progress_dead09p`).
-/
namespace Hannibal

/-- labels that need no cooperation from any terminated subscriber and no new client operation:
    the broker's own moves, take-ups by live subscribers, and returns -/
def BLabel.isProgress09p : BLabel → Bool
  | .benq _ | .bproc | .bret _ | .deliver _ _ => true
  | _ => false

theorem brun_append09p (l2 : List BLabel) {l1 : List BLabel} {s s1 : BrSt} (h : brun s l1 = some s1) :
    brun s (l1 ++ l2) = brun s1 l2 := by
  fun_induction brun s l1 with
  | case1 s => cases h; rfl
  | case2 s l ls s' hs ih => simp only [List.cons_append, brun, hs]; exact ih h
  | case3 => cases h

def NoDeadFl09p (s : BrSt) : Prop := ∀ p ∈ s.flight, p.1 ∉ s.dead

theorem noDeadFl_step09p {s s' : BrSt} {l : BLabel} (hi : NoDeadFl09p s) (hs : bstep s l = some s') :
    NoDeadFl09p s' := by
  cases bstep_cases hs with
  | bbegin | benq | bret | procSub | procUnsub => exact hi
  | procPub m rest hm =>
    intro p hp
    rcases List.mem_append.mp hp with hp | hp
    · exact hi p hp
    · obtain ⟨c, hc, rfl⟩ := List.mem_map.mp hp
      simpa using (List.mem_filter.mp hc).2
  | deliver c m f1 f2 hd hf hn =>
    exact fun p hp => hi p (hf ▸ ((List.sublist_cons_self _ f2).append_left f1).subset hp)
  | term c =>
    intro p hp
    obtain ⟨hp, hne⟩ := List.mem_filter.mp hp
    exact List.not_mem_cons_of_ne_of_not_mem (by simpa using hne) (hi p hp)

theorem noDeadFl_run09p {ls : List BLabel} {s s' : BrSt} (hi : NoDeadFl09p s) (h : brun s ls = some s') :
    NoDeadFl09p s' := by
  fun_induction brun s ls with
  | case1 s => cases h; exact hi
  | case2 s l ls s1 hs ih => exact ih (noDeadFl_step09p hi hs) h
  | case3 => cases h

theorem progress_step_dead09p {s s' : BrSt} {l : BLabel} (hp : l.isProgress09p = true) (hs : bstep s l = some s') :
    s'.dead = s.dead ∧ ∀ c m, l = .deliver c m → ¬ c ∈ s.dead := by
  cases bstep_cases hs with
  | bbegin | term => cases hp
  | benq | bret | procSub | procUnsub | procPub => exact ⟨rfl, nofun⟩
  | deliver c m f1 f2 hd => exact ⟨rfl, fun _ _ h => by cases h; exact hd⟩

theorem progress_dead09p {ls : List BLabel} {s s' : BrSt} (hp : ls.all BLabel.isProgress09p = true)
    (h : brun s ls = some s') : s'.dead = s.dead ∧ ∀ c m, .deliver c m ∈ ls → ¬ c ∈ s.dead := by
  fun_induction brun s ls with
  | case1 s => cases h; exact ⟨rfl, nofun⟩
  | case2 s l ls s1 hs ih =>
    simp only [List.all_cons, Bool.and_eq_true] at hp
    obtain ⟨hd1, hl1⟩ := progress_step_dead09p hp.1 hs
    obtain ⟨hd2, hl2⟩ := ih hp.2 h
    refine ⟨hd2.trans hd1, fun c m hm => ?_⟩
    rcases List.mem_cons.mp hm with hm | hm
    · exact hl1 c m hm.symm
    · exact hd1 ▸ hl2 c m hm
  | case3 => cases h

theorem drain09p (μ : BrSt → Nat) {P : BrSt → Prop}
    (hstep : ∀ s, P s → μ s ≠ 0 → ∃ l s1, l.isProgress09p = true ∧ bstep s l = some s1 ∧ μ s1 < μ s ∧ P s1)
    (s : BrSt) (hp : P s) :
    ∃ (ls : List BLabel) (s' : BrSt), ls.all BLabel.isProgress09p = true ∧ brun s ls = some s' ∧ μ s' = 0 ∧ P s' := by
  induction hn : μ s using Nat.strongRecOn generalizing s with
  | _ n ih =>
    by_cases h0 : μ s = 0
    · exact ⟨[], s, rfl, rfl, h0, hp⟩
    · obtain ⟨l, s1, hl, hs, hlt, hp1⟩ := hstep s hp h0
      obtain ⟨ls, s', h1, h2, h3, h4⟩ := ih (μ s1) (hn ▸ hlt) s1 hp1 rfl
      exact ⟨l :: ls, s', by simp [hl, h1], by simp [brun, hs, h2], h3, h4⟩

theorem move_enq09p (s : BrSt) (hi : NoDeadFl09p s) (h0 : s.pend.length ≠ 0) :
    ∃ l s1, l.isProgress09p = true ∧ bstep s l = some s1 ∧ s1.pend.length < s.pend.length ∧ NoDeadFl09p s1 := by
  obtain ⟨⟨o, it⟩, rest, hp⟩ := List.exists_cons_of_length_pos (Nat.pos_of_ne_zero h0)
  have hs : bstep s (.benq o) = some { s with
      pend := rest.filter (fun p => p.1 != o), sent := o :: s.sent, mbox := s.mbox ++ [it] } := by
    simp [bstep, hp]
  exact ⟨_, _, rfl, hs, by simpa [hp] using Nat.lt_succ_of_le (List.length_filter_le _ rest),
    noDeadFl_step09p hi hs⟩

theorem move_proc09p (s : BrSt) (hi : NoDeadFl09p s ∧ s.pend = []) (h0 : s.mbox.length ≠ 0) :
    ∃ l s1, l.isProgress09p = true ∧ bstep s l = some s1 ∧ s1.mbox.length < s.mbox.length ∧
      NoDeadFl09p s1 ∧ s1.pend = [] := by
  obtain ⟨it, rest, hm⟩ := List.exists_cons_of_length_pos (Nat.pos_of_ne_zero h0)
  have ⟨s1, hs, hm1, hp1⟩ : ∃ s1, bstep s .bproc = some s1 ∧ s1.mbox = rest ∧ s1.pend = s.pend := by
    cases it <;> simp only [bstep, hm] <;> exact ⟨_, rfl, rfl, rfl⟩
  exact ⟨_, s1, rfl, hs, by simp [hm, hm1], noDeadFl_step09p hi.1 hs, hp1.trans hi.2⟩

theorem move_deliver09p (s : BrSt) (hi : NoDeadFl09p s ∧ s.pend = [] ∧ s.mbox = []) (h0 : s.flight.length ≠ 0) :
    ∃ l s1, l.isProgress09p = true ∧ bstep s l = some s1 ∧ s1.flight.length < s.flight.length ∧
      NoDeadFl09p s1 ∧ s1.pend = [] ∧ s1.mbox = [] := by
  obtain ⟨⟨c, m⟩, rest, hf⟩ := List.exists_cons_of_length_pos (Nat.pos_of_ne_zero h0)
  have hd : c ∉ s.dead := hi.1 (c, m) (hf ▸ List.mem_cons_self)
  have hs : bstep s (.deliver c m) = some { s with flight := rest } := by simp [bstep, hf, hd]
  exact ⟨_, _, rfl, hs, by simp [hf], noDeadFl_step09p hi.1 hs, hi.2⟩

theorem move_ret09p (s : BrSt) (hi : s.pend = [] ∧ s.mbox = [] ∧ s.flight = []) (h0 : s.sent.length ≠ 0) :
    ∃ l s1, l.isProgress09p = true ∧ bstep s l = some s1 ∧ s1.sent.length < s.sent.length ∧
      s1.pend = [] ∧ s1.mbox = [] ∧ s1.flight = [] := by
  obtain ⟨o, rest, hp⟩ := List.exists_cons_of_length_pos (Nat.pos_of_ne_zero h0)
  have hs : bstep s (.bret o) = some { s with sent := rest.filter (fun x => x != o) } := by simp [bstep, hp]
  exact ⟨_, _, rfl, hs, by simpa [hp] using Nat.lt_succ_of_le (List.length_filter_le _ rest), hi⟩

/-- **C09, progress (broker).**  From every reachable state - whatever subscribers have terminated, at whatever
    point - every begun operation can be completed and returned and the system settles, using only the broker's own
    moves, take-ups by live subscribers and returns. -/
theorem C09p_progress (ls : List BLabel) (s : BrSt) (hr : brun BrSt.init ls = some s) :
    ∃ (ls' : List BLabel) (s' : BrSt),
      ls'.all BLabel.isProgress09p = true ∧ brun s ls' = some s' ∧
      s'.settled = true ∧ s'.sent = [] ∧ s'.dead = s.dead ∧
      (∀ c m, .deliver c m ∈ ls' → ¬ c ∈ s.dead) := by
  have hi : NoDeadFl09p s := noDeadFl_run09p (fun _ hp => (List.not_mem_nil hp).elim) hr
  obtain ⟨l1, s1, p1, r1, e1, i1⟩ := drain09p (·.pend.length) move_enq09p s hi
  obtain ⟨l2, s2, p2, r2, e2, i2⟩ := drain09p (·.mbox.length) move_proc09p s1 ⟨i1, List.eq_nil_of_length_eq_zero e1⟩
  obtain ⟨l3, s3, p3, r3, e3, _, i3⟩ :=
    drain09p (·.flight.length) move_deliver09p s2 ⟨i2.1, i2.2, List.eq_nil_of_length_eq_zero e2⟩
  obtain ⟨l4, s4, p4, r4, e4, i4⟩ :=
    drain09p (·.sent.length) move_ret09p s3 ⟨i3.1, i3.2, List.eq_nil_of_length_eq_zero e3⟩
  have hall : (l1 ++ (l2 ++ (l3 ++ l4))).all BLabel.isProgress09p = true := by
    simp only [List.all_append, p1, p2, p3, p4, Bool.and_self]
  have hrun : brun s (l1 ++ (l2 ++ (l3 ++ l4))) = some s4 := by
    rw [brun_append09p _ r1, brun_append09p _ r2, brun_append09p _ r3, r4]
  obtain ⟨hd, hl⟩ := progress_dead09p hall hrun
  exact ⟨_, s4, hall, hrun, (settled_iff s4).mpr i4, List.eq_nil_of_length_eq_zero e4, hd, hl⟩

/-- a publish that has begun can always return, no matter who terminated -/
theorem C09p_publish_returns (ls : List BLabel) (s : BrSt) (hr : brun BrSt.init ls = some s)
    (o m : Nat) (_ho : (o, BItem.pub m) ∈ s.pend ∨ o ∈ s.sent) :
    ∃ ls' s', ls'.all BLabel.isProgress09p = true ∧ brun s ls' = some s' ∧ ¬ o ∈ s'.sent ∧
      ¬ (∃ it, (o, it) ∈ s'.pend) := by
  obtain ⟨ls', s', h1, h2, h3, h4, _, _⟩ := C09p_progress ls s hr
  have hp : s'.pend = [] := ((settled_iff s').mp h3).1
  refine ⟨ls', s', h1, h2, ?_, ?_⟩
  · rw [h4]; exact List.not_mem_nil
  · rw [hp]
    rintro ⟨it, h⟩
    exact absurd h List.not_mem_nil

/-- two subscribers (1 and 2); `pub 5` handled and on its way to both; subscriber 2 terminates with it on its way;
    `pub 6` (operation 3) is in the broker's mailbox, `pub 7` (operation 4) has begun and not entered the mailbox -/
def c09pPrefix : List BLabel :=
  [ .bbegin 0 (.sub 1), .benq 0, .bproc, .bret 0, .bbegin 1 (.sub 2), .benq 1, .bproc, .bret 1,
    .bbegin 2 (.pub 5), .benq 2, .bproc, .term 2, .bbegin 3 (.pub 6), .benq 3, .bbegin 4 (.pub 7) ]

def c09pState : BrSt :=
  { pend := [(4, .pub 7)], sent := [3, 2], mbox := [.pub 6], subs := [2, 1], flight := [(1, 5)], dead := [2] }

/-- the state is reachable; the publish `pub 6` is in the mailbox, subscriber 2 is in the table and dead -/
example : brun BrSt.init c09pPrefix = some c09pState := by decide

/-- the continuation: only progress labels -/
def c09pCont : List BLabel :=
  [ .benq 4, .bproc, .bproc, .deliver 1 5, .deliver 1 6, .deliver 1 7, .bret 4, .bret 3, .bret 2 ]

example : c09pCont.all BLabel.isProgress09p = true := by decide

/-- ... it is accepted and settles the system: everything returned, both later publications went to the live
    subscriber only, `dead` unchanged -/
example : brun c09pState c09pCont =
    some { pend := [], sent := [], mbox := [], subs := [2, 1], flight := [], dead := [2] } := by decide

example : (match brun c09pState c09pCont with
    | some s' => s'.settled && s'.sent.isEmpty && (s'.dead == c09pState.dead)
    | none => false) = true := by decide

/-- the hypothesis of `C09p_publish_returns` is satisfied there by a pending publish and by one in the mailbox -/
example : (4, BItem.pub 7) ∈ c09pState.pend ∧ 3 ∈ c09pState.sent := by decide

/-- the publishes may also return at once (before the broker handles them, before anything is taken up) -/
example : (match brun c09pState [ .benq 4, .bret 4, .bret 3 ] with
    | some s' => !s'.sent.contains 4 && !s'.sent.contains 3 && !s'.pend.any (fun p => p.1 == 4)
    | none => false) = true := by decide

/-- the model refuses a take-up by the dead subscriber, and nothing is on its way to it: the broker skipped it -/
example : bstep c09pState (.deliver 2 5) = none := by decide
example : (match brun c09pState [ .benq 4, .bproc, .bproc ] with
    | some s' => s'.flight == [(1, 5), (1, 6), (1, 7)]
    | none => false) = true := by decide

/-- `isProgress09p` excludes exactly new operations and terminations -/
example : BLabel.isProgress09p (.bbegin 9 (.pub 1)) = false ∧ BLabel.isProgress09p (.term 1) = false := by decide

end Hannibal
