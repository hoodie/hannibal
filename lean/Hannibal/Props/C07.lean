import Hannibal.Proofs.Timers
import Hannibal.Props.C03
import Hannibal.Proofs.Run
import Hannibal.Monitor.C07
/-
  C07 — restart keeps identity and mailbox and yields a freshly started incarnation
  (strategy and timer clauses: `monC07`; the order clause `monC07o` is Props/C07O.lean).

  For every wiring whose `refresh` calls `stopped` before `started` and aborts the timers
  registered so far, every run of the actor model is accepted by `monC07`: with the default
  strategy the same value is restarted, with recreate-from-default a fresh Default value
  receives `started`, a non-restartable spawn never sees a second `started`, and no timer
  registered by a previous incarnation fires (or re-arms) once the new incarnation has started.
-/
namespace Hannibal
open AState

def WellWired07 (w : Wiring) : Prop := w.refreshStopsThenStarts = true ∧ w.refreshResetsTimers = true

instance (w : Wiring) : Decidable (WellWired07 w) := by unfold WellWired07; infer_instance

def inGap : Phase → Bool
  | .unstarted | .rstStopped _ => true
  | _ => false

structure C07P (c : MonCtx) (s : AState) (σ : C07St) : Prop where
  cfg : s.cfg = c.cfg
  rst : RstOk s
  inc0 : s.phase = .unstarted → σ.inc = 0
  vnew : ∀ f, s.phase = .rstStopped f → σ.vnewSeen = f ∧ (f = true → s.cfg.strat = .recreate)

structure C07T (s : AState) (σ : C07St) : Prop where
  old : ∀ t i, lookup t σ.timers = some i → i < σ.inc → ∀ x, s.findTimer t = some x → x.Dead
  gap : inGap s.phase = true → AllDead s

/-- the labels at which `monC07` looks up the timer and may refuse -/
def Label.isTimerFire : Label → Bool
  | .fire _ _ | .timerArm _ _ => true
  | _ => false

def next07 (σ : C07St) : Label → C07St
  | .cbBegin .started => { σ with inc := σ.inc + 1, started := false, vnewSeen := false }
  | .cbEnd .started ok => { σ with started := ok }
  | .cbEnd .stopped _ => { σ with vnewSeen := false }
  | .vnew _ => { σ with vnewSeen := true }
  | .ctxTimer t _ _ => { σ with timers := (t, σ.inc) :: σ.timers }
  | _ => σ

theorem monC07_other (c : MonCtx) (σ : C07St) {l : Label} (hl : l.isLoop = false) :
    (l.isTimerFire = false → (monC07 c).step σ l = some (next07 σ l)) ∧
      (next07 σ l).inc = σ.inc ∧ (next07 σ l).vnewSeen = σ.vnewSeen := by
  cases l <;> first | exact ⟨fun _ => rfl, rfl, rfl⟩ | exact ⟨Bool.noConfusion, rfl, rfl⟩ | cases hl

theorem monC07_started (c : MonCtx) (σ : C07St)
    (h : σ.inc = 0 ∨ (c.cfg.stream = false ∧ c.cfg.strat ≠ .non ∧ (σ.vnewSeen = true ↔ c.cfg.strat = .recreate))) :
    (monC07 c).step σ (.cbBegin .started) = some (next07 σ (.cbBegin .started)) := by
  rcases h with h | ⟨h1, h2, h3⟩
  · simp [monC07, next07, h]
  · cases hs : c.cfg.strat <;> cases hv : σ.vnewSeen <;> simp_all [monC07, next07]

theorem c07_phase (w : Wiring) (c : MonCtx) {s s' : AState} {σ : C07St} {l : Label}
    (hi : C07P c s σ) (hs : step w s l = some s') :
    (l.isTimerFire = false → (monC07 c).step σ l = some (next07 σ l)) ∧ C07P c s' (next07 σ l) ∧
      (inGap s'.phase = true → inGap s.phase = true ∨ ∃ ok, l = .cbEnd .stopped ok) := by
  obtain ⟨hcfg, hrst, hinc, hvn⟩ := hi
  have hcfg' := (step_cfg hs).trans hcfg
  have hrst' := rstOk_step hs hrst
  cases hl : l.isLoop
  · obtain ⟨hm, h1, h2⟩ := monC07_other c σ hl
    have hph := step_phase hs hl
    refine ⟨hm, ⟨hcfg', hrst', ?_, ?_⟩, fun h => .inl (hph ▸ h)⟩
    · rw [hph, h1]; exact hinc
    · rw [hph, h2, step_cfg hs]; exact hvn
  · unfold RstOk at hrst
    cases step_loop hs hl
    case start hp =>
      exact ⟨fun _ => monC07_started c σ (.inl (hinc hp)), ⟨hcfg', hrst', by simp, by simp⟩, by simp [inGap, hp]⟩
    case restart fresh hp hf =>
      refine ⟨fun _ => monC07_started c σ (.inr ?_), ⟨hcfg', hrst', by simp, by simp⟩, by simp [inGap, hp]⟩
      obtain ⟨h1, h2⟩ := hrst (.inr (.inr ⟨_, hp⟩))
      obtain ⟨h3, h4⟩ := hvn _ hp
      rw [← hcfg]
      exact ⟨h1, h2, fun h => h4 (h3 ▸ h), fun h => h3 ▸ hf h⟩
    all_goals
      refine ⟨fun _ => rfl, ⟨hcfg', hrst', ?_, ?_⟩, ?_⟩ <;> clear hcfg' hrst' hrst hcfg <;> simp [next07, inGap, *]

structure C07Inv (c : MonCtx) (s : AState) (σ : C07St) : Prop where
  p : C07P c s σ
  t : C07T s σ

theorem next07_inc (σ : C07St) {l : Label} (h : l ≠ .cbBegin .started) : (next07 σ l).inc = σ.inc := by
  unfold next07; split <;> first | rfl | exact absurd rfl h

theorem next07_lookup (σ : C07St) {l : Label} {t : Nat} (h : ∀ k d, l ≠ .ctxTimer t k d) :
    lookup t (next07 σ l).timers = lookup t σ.timers := by
  unfold next07; split <;> try rfl
  rename_i t0 k d
  exact lookup_cons_ne fun he => h k d (he ▸ rfl)

theorem c07_step (w : Wiring) (hw : WellWired07 w) (c : MonCtx) {s s' : AState} {σ : C07St} {l : Label}
    (hi : C07Inv c s σ) (hs : step w s l = some s') :
    ∃ σ', (monC07 c).step σ l = some σ' ∧ C07Inv c s' σ' := by
  obtain ⟨hP, hold, hgap⟩ := hi
  obtain ⟨hacc, hP', hgp⟩ := c07_phase w c hP hs
  refine ⟨next07 σ l, ?_, hP', ?_, ?_⟩
  · cases hl : l.isTimerFire
    · exact hacc hl
    -- `fire` / `timerArm`: the timer is alive in the model, so it was not registered by an earlier incarnation
    have halive : ∀ t, (∃ x, s.findTimer t = some x ∧ ¬ x.Dead) →
        (match lookup t σ.timers with
         | some i => if (decide (i < σ.inc) && σ.started) = true then none else some σ
         | none => some σ) = some σ := by
      rintro t ⟨x, hx, hnd⟩
      split
      · rename_i i hlk
        rw [if_neg]
        intro hc
        simp only [Bool.and_eq_true, decide_eq_true_eq] at hc
        exact hnd (hold t i hlk hc.1 x hx)
      · rfl
    cases l <;> try (cases hl; done)
    case fire t m =>
      obtain ⟨x, due, hx, hst, -⟩ := stepFire_cases hs
      exact halive t ⟨x, hx, by simp [Timer.Dead, hst]⟩
    case timerArm t due =>
      obtain ⟨x, hx, -, hst | ⟨old, hst, -⟩ | ⟨hst, -⟩⟩ := stepTimerArm_cases hs <;>
        exact halive t ⟨x, hx, by simp [Timer.Dead, hst]⟩
  · intro t i hlk hlt x' hx'
    by_cases hst : l = .cbBegin .started
    · -- every timer registered so far died in the gap before this `started`
      subst hst
      cases step_loop hs rfl <;> exact hgap (by simp [inGap, *]) x' (findTimer_mem hx').1
    · by_cases hct : ∃ k d, l = .ctxTimer t k d
      · -- a timer registered now belongs to the current incarnation
        obtain ⟨k, d, rfl⟩ := hct
        obtain rfl : σ.inc = i := by simpa [next07, lookup] using hlk
        exact absurd hlt (Nat.lt_irrefl _)
      · have hct : ∀ k d, l ≠ .ctxTimer t k d := fun k d h => hct ⟨k, d, h⟩
        rw [next07_lookup σ hct] at hlk; rw [next07_inc σ hst] at hlt
        exact timerDead_step hs hct (hold t i hlk hlt) hx'
  · intro hg
    rcases hgp hg with hg0 | ⟨ok, rfl⟩
    · refine allDead_step hs (hgap hg0) ?_
      -- no registration outside a callback
      rintro t k d rfl
      have := (stepCtxTimer_cases hs).1
      unfold inCallback at this
      cases hp : s.phase <;> simp [hp, inGap] at this hg0
    · -- `stopped` of a refresh aborts the timers
      cases step_loop hs rfl
      case stoppedEnd => simp [inGap] at hg
      case stoppedEndRst =>
        intro x hx
        exact allDead_killTimers s x (by simpa [refreshTimers, hw.2] using hx)

theorem c07_init (c : MonCtx) : C07Inv c (AState.init c.cfg c.h0 c.k0) (monC07 c).init := by
  refine ⟨⟨rfl, ?_, ?_, ?_⟩, ⟨?_, ?_⟩⟩
  · simp [RstOk, AState.init]
  · intro _; rfl
  · intro f h; simp [AState.init] at h
  · intro t i h; simp [monC07, lookup] at h
  · intro _ x hx; simp [AState.init] at hx

/-- **C07 (strategy and timers).** Every run of the actor model under a wiring whose `refresh`
    stops, aborts the registered timers, then starts, is accepted by `monC07`. -/
theorem C07_holds (w : Wiring) (hw : WellWired07 w) (c : MonCtx) (ls : List Label) (s : AState)
    (hr : run w (AState.init c.cfg c.h0 c.k0) ls = some s) : (monC07 c).ok ls = true :=
  ok_of_run_lift (monC07 c) w (C07Inv c) (fun _ _ _ _ hi hs => c07_step w hw c hi hs) _ (c07_init c) ls s hr

/-- Without the abort in `refresh` the property fails: a timer registered in `started` fires into
    the next incarnation. -/
def c07Witness : List Label :=
  [ .cbBegin .started, .ctxTimer 0 .intervalWith 5, .cbEnd .started true, .timerArm 0 5, .restartReq 0 true,
    .tDeq, .cbBegin .stopped, .cbEnd .stopped true, .cbBegin .started, .cbEnd .started true, .time 5,
    .fire 0 (some 100) ]

def noResetWiring (w : Wiring) : Wiring := { w with refreshResetsTimers := false }

def c07Cfg : Cfg := { cap := none, strat := .only, timeout := none, failOnTimeout := false, stream := false }

example : (monC07 { cfg := c07Cfg, h0 := 0, k0 := .addr, prompt := true }).ok c07Witness = false := by decide


end Hannibal
