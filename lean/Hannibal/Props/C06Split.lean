import Hannibal.Monitor.C06
/-
  C06: the one-piece monitor is exactly the conjunction of `monC06` (`C06_holds`) and `monC06t` (quiescence
  clause: `C06q_holds`; return clause: `C06r_holds`, guarded runs only).
-/
namespace Hannibal
open AState

/-- the one-piece formulation of C06 -/
def monC06orig (c : MonCtx) : Mon C06St where
  init := { failed := false, ops := [], finishedOk := [], timers := [], terminated := false }
  step st l :=
    match l with
    | .begin o _ k => some { st with ops := (o, (k, st.failed)) :: st.ops }
    | .cbEnd (.handle m) true => some { st with finishedOk := m :: st.finishedOk }
    | .cbBegin _ => if st.failed then none else some st
    | .fire _ _ | .tickBegin _ _ | .timerArm _ _ => if st.failed && st.terminated then none else some st
    | .ctxTimer t _ _ => some { st with timers := (t, false) :: st.timers }
    | .timerEnd t => some { st with timers := st.timers.map (fun p => if p.1 == t then (t, true) else p) }
    | .ret o r =>
      if !st.failed then some st else
      (match lookup o st.ops with
       | none => some st
       | some (k, late) =>
         (match k, r with
          | .await, r | .halt, r | .tryHalt, r => if r.isErr then some st else none
          | .join, r | .consume, r => if r == .none || r.isErr then some st else none
          | k, .okReply rep => if !late && k.isCall && st.finishedOk.contains rep.m then some st else none
          | .ping, .ok => if late then none else some st
          | k, .ok => if late && k.isSend then none else some st
          | _, _ => some st))
    | .quiescent pend =>
      if st.failed then
        (if pend.all (fun o => (lookup o st.ops).isNone) && st.timers.all (·.2) then some st else none)
      else some st
    | l =>
      let fail := l.isFailure || (match l with | .cbAbandon _ => c.cfg.failOnTimeout && !st.failed | _ => false)
      let st := if fail then { st with failed := true } else st
      if l.terminates then some { st with terminated := true } else some st

theorem monC06_split_step (c : MonCtx) (st : C06St) (l : Label) :
    (monC06orig c).step st l = if bad06 st l || bad06t st l then none else some (next06 c st l) := by
  cases l
  case ret o r =>
    show _ = if (st.failed && _ || st.failed && _) = true then none else some st
    dsimp only [monC06orig]
    cases st.failed
    · rfl
    · cases lookup o st.ops with
      | none => rfl
      | some p =>
        obtain ⟨k, late⟩ := p
        cases k <;> cases r <;> cases late <;>
          first
          | rfl
          | (show (if st.finishedOk.contains _ = true then some st else none) =
                if (!st.finishedOk.contains _ || false) = true then none else some st
             cases st.finishedOk.contains _ <;> rfl)
  case quiescent pend =>
    show _ = if (st.failed && _ || st.failed && _) = true then none else some st
    dsimp only [monC06orig]
    cases st.failed
    · rfl
    · cases pend.all _ <;> cases st.timers.all _ <;> rfl
  case cbBegin | fire | tickBegin | timerArm =>
    show _ = if (bad06 st _ || false) = true then none else some st
    rw [Bool.or_false]; rfl
  case cbEnd cb ok => cases cb <;> cases ok <;> rfl
  case cbAbandon cb =>
    -- the one-piece monitor sets the flag only once: the states agree because `failed` is already set
    obtain ⟨f, _, _, _, _⟩ := st
    obtain ⟨⟨_, _, _, b, _⟩, _, _, _⟩ := c
    cases f <;> cases b <;> rfl
  all_goals rfl

theorem Mon.run_split {σ : Type} {m m1 m2 : Mon σ} (next : σ → Label → σ) (b1 b2 : σ → Label → Bool)
    (h : ∀ st l, m.step st l = if b1 st l || b2 st l then none else some (next st l))
    (h1 : ∀ st l, m1.step st l = if b1 st l then none else some (next st l))
    (h2 : ∀ st l, m2.step st l = if b2 st l then none else some (next st l)) (ls : List Label) (st : σ) :
    (m.run st ls).isSome = ((m1.run st ls).isSome && (m2.run st ls).isSome) := by
  induction ls generalizing st with
  | nil => rfl
  | cons l ls ih =>
    simp only [Mon.run, h, h1, h2]
    cases b1 st l <;> cases b2 st l <;> simp [ih]

theorem monC06_split (c : MonCtx) (ls : List Label) :
    (monC06orig c).ok ls = ((monC06 c).ok ls && (monC06t c).ok ls) :=
  Mon.run_split (next06 c) bad06 bad06t (monC06_split_step c) (fun _ _ => rfl) (fun _ _ => rfl) ls _

end Hannibal
