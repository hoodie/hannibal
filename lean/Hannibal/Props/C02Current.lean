import Hannibal.Props.C02
import Hannibal.Generated.Wiring
/- C02 for the wiring extracted from today's source. -/
namespace Hannibal

theorem wellWired02_current : Wiring.current.notifyAfterStopped = true := by decide

theorem C02_current (c : MonCtx) (ls : List Label) (s : AState)
    (hr : run Wiring.current (AState.init c.cfg c.h0 c.k0) ls = some s) (hfresh : opIdsFresh ls = true) :
    (monC02 c).ok ls = true :=
  C02_holds _ wellWired02_current c ls s hr hfresh

/-- `monC02t`, and with it the property as first written, under the extra executor assumption -/
theorem C02orig_current (c : MonCtx) (ls : List Label) (s : AState)
    (hr : run Wiring.current (AState.init c.cfg c.h0 c.k0) ls = some s) (hfresh : opIdsFresh ls = true)
    (hnc : noCancelAfterStopped ls = true) : (monC02orig c).ok ls = true :=
  C02orig_holds _ wellWired02_current c ls s hr hfresh hnc

example : (run Wiring.current (AState.init c02Cfg 0 .addr) c02Example).isSome = true := by decide

/-- the runs rejected by `monC02t` are runs of the model under today's wiring -/
example : (run Wiring.current (AState.init c02Cfg 0 .addr) c02AwaitWitness).isSome = true := by decide
example : (run Wiring.current (AState.init c02Cfg 0 .addr) c02AwaitWitness2).isSome = true := by decide

/-- the model alone admits the run that reuses an operation id -/
example : (run Wiring.current (AState.init c02Cfg 0 .addr) c02ReuseWitness).isSome = true := by decide

end Hannibal
