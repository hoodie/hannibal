import Hannibal.Model.Types
/-
  C19 — ill-typed uses of the API are rejected at compile time.

  If every entry point carries (at least) the trait bounds listed in `required`
  — read off the source's generics and where-clauses by the translator — then
  for ALL actor and message profiles every use the compiler accepts is
  legitimate: a handler exists, fire-and-forget paths carry unit responses,
  restart needs a restartable actor, a stream only attaches to a
  non-restartable builder, recreate-from-default needs Default.
-/
namespace Hannibal

def WellWired19 (bounds : ApiEntry → List Bound) : Prop :=
  ∀ e, ∀ b ∈ required e, b ∈ bounds e

theorem ApiEntry.mem_all (e : ApiEntry) : e ∈ ApiEntry.all := by cases e <;> decide

theorem wellWired19_of_b (bounds : ApiEntry → List Bound) (h : wellWired19b bounds = true) : WellWired19 bounds := by
  intro e b hb
  simp only [wellWired19b, List.all_eq_true] at h
  exact List.contains_iff_mem.mp (h e e.mem_all b hb)

theorem required_covers (e : ApiEntry) :
    (e.needsHandler = true → .handler ∈ required e) ∧
    (e.fireAndForget = true → .unitResponse ∈ required e) ∧
    ((e = .addrRestart ∨ e = .ctxRestart) → .restartable ∈ required e) ∧
    (e = .withStream → .nonRestartableState ∈ required e ∧ .streamHandler ∈ required e) ∧
    (e = .recreateFromDefault → .default ∈ required e ∧ .restartable ∈ required e) ∧
    ((e = .builderOnStream ∨ e = .builderBoundedOnStream) → .streamHandler ∈ required e) ∧
    ((e = .spawnOnStream ∨ e = .spawnOwningOnStream) → .streamHandler ∈ required e) := by
  cases e <;> decide

theorem legit_of_required (u : Use) (hs : ∀ b ∈ required u.entry, sat u b = true) : Legit u := by
  obtain ⟨h1, h2, h3, h4, h5, h6, h7⟩ := required_covers u.entry
  exact ⟨fun h => hs _ (h1 h), fun h => hs _ (h2 h), fun h => hs _ (h3 h),
    fun h => ⟨eq_of_beq (hs _ (h4 h).1), hs _ (h4 h).2⟩, fun h => ⟨hs _ (h5 h).1, hs _ (h5 h).2⟩,
    fun h => hs _ (h6 h), fun h => hs _ (h7 h)⟩

/-- **C19.** For every profile of actor and message types (no bound on the number of types). -/
theorem C19_holds (bounds : ApiEntry → List Bound) (hw : WellWired19 bounds) (u : Use)
    (ha : accepts bounds u = true) : Legit u :=
  legit_of_required u fun b hb => List.all_eq_true.mp ha b (hw u.entry b hb)

/-- No bypass through type-erased or weak handles: `Sender<M>`, `Caller<M>`, `WeakSender<M>`,
    `WeakCaller<M>` can only be produced by entry points that carry the handler bound (and the
    unit-response bound for the fire-and-forget ones), so every chain of conversions starting from an
    `Addr<A>` ends in a handle for a message `A` handles. -/
inductive Conv where
  | sender | weakSender | caller | weakCaller | ctxWeakSender | ctxWeakCaller
  deriving Repr, DecidableEq

def Conv.entry : Conv → ApiEntry
  | .sender => .addrSender | .weakSender => .addrWeakSender | .caller => .addrCaller
  | .weakCaller => .addrWeakCaller | .ctxWeakSender => .ctxWeakSender | .ctxWeakCaller => .ctxWeakCaller

theorem C19_no_bypass (bounds : ApiEntry → List Bound) (hw : WellWired19 bounds) (c : Conv) (a : ActorTy) (m : MsgTy)
    (item : Nat) (st : BState)
    (ha : accepts bounds { entry := c.entry, actor := a, msg := m, item := item, state := st } = true) :
    a.handles.contains m.id = true ∧ (c.entry.fireAndForget = true → m.unitResponse = true) := by
  have := C19_holds bounds hw _ ha
  exact ⟨this.1 (by cases c <;> rfl), this.2.1⟩

/-- Non-vacuity and necessity: dropping the unit-response bound from `Addr::sender` lets an ill-typed
    use through. -/
def looseBounds : ApiEntry → List Bound := fun e => if e = .addrSender then [.handler] else required e
def badUse : Use :=
  { entry := .addrSender, actor := { handles := [1], restartable := false, hasDefault := false, streamItems := [] },
    msg := { id := 1, unitResponse := false }, item := 0, state := .restartOnly }
example : accepts looseBounds badUse = true := by decide
example : ¬ Legit badUse := by unfold Legit; decide
example : accepts required badUse = false := by decide

/-- The same for two further entry points: an `Addr<Broker<T>>::publish` without the unit-response bound and a
    `spawn_on_stream` without the `StreamHandler` bound each let an illegitimate use through. -/
def looseBounds2 : ApiEntry → List Bound := fun e =>
  if e = .brokerAddrPublish ∨ e = .spawnOnStream then [] else required e
def badUse2 : Use :=
  { entry := .brokerAddrPublish, actor := { handles := [], restartable := false, hasDefault := false, streamItems := [] },
    msg := { id := 2, unitResponse := false }, item := 0, state := .restartOnly }
def badUse3 : Use :=
  { entry := .spawnOnStream, actor := { handles := [1], restartable := false, hasDefault := true, streamItems := [] },
    msg := { id := 1, unitResponse := true }, item := 10, state := .restartOnly }
example : accepts looseBounds2 badUse2 = true ∧ accepts looseBounds2 badUse3 = true := by decide
example : ¬ Legit badUse2 := by unfold Legit; decide
example : ¬ Legit badUse3 := by unfold Legit; decide
example : accepts required badUse2 = false ∧ accepts required badUse3 = false := by decide

end Hannibal
