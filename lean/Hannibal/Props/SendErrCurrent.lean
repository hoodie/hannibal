import Hannibal.Props.SendErr
import Hannibal.Generated.Wiring
/- SendErr for the wiring extracted from today's source. -/
namespace Hannibal

theorem SendErr_current (c : MonCtx) (ls : List Label) (s : AState)
    (hr : run Wiring.current (AState.init c.cfg c.h0 c.k0) ls = some s) : monSendErr.ok ls = true :=
  SendErr_holds _ c ls s hr

def sendErrCfg : Cfg := { cap := none, strat := .only, timeout := none, failOnTimeout := false, stream := false }

/-- a send handled while the actor lives, a send accepted while `stopped` runs (the mailbox is still open),
    graceful stop, the task ends, then a call and a send are refused with a send error -/
def sendErrExample : List Label :=
  [ .cbBegin .started, .cbEnd .started true,
    .begin 0 0 (.send 7), .ret 0 .ok, .cbBegin (.handle 7), .cbEnd (.handle 7) true,
    .stopReq 0 true, .tDeq, .cbBegin .stopped, .begin 1 0 (.send 8), .ret 1 .ok, .cbEnd .stopped true, .taskDone,
    .begin 3 0 (.call 9), .ret 3 (.err .send), .begin 4 0 (.send 10), .ret 4 (.err .send) ]

example : (run Wiring.current (AState.init sendErrCfg 0 .addr) sendErrExample).isSome = true := by decide
example : monSendErr.ok sendErrExample = true := by decide
/-- the same with the default configuration -/
example : (run Wiring.current (AState.init default 0 .addr) sendErrExample).isSome = true := by decide

/-- the model refuses the send error while the task still runs (in `stopped`): the prefix with the refusal moved
    before `taskDone` is not a run, and the monitor flags it -/
def sendErrBad : List Label :=
  [ .cbBegin .started, .cbEnd .started true,
    .stopReq 0 true, .tDeq, .cbBegin .stopped, .begin 1 0 (.send 8), .ret 1 (.err .send) ]
example : (run Wiring.current (AState.init sendErrCfg 0 .addr) sendErrBad).isSome = false := by decide
example : monSendErr.ok sendErrBad = false := by decide

end Hannibal
