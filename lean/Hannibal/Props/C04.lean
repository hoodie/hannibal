import Hannibal.Proofs.Term
import Hannibal.Proofs.Handles
import Hannibal.Proofs.OpsClean
import Hannibal.Proofs.Run
import Hannibal.Monitor.C04
namespace Hannibal
open AState

def failing : Phase → Bool
  | .exiting false | .done false => true
  | _ => false

def gracefulEnd : Phase → Bool
  | .exiting true | .done true => true
  | _ => false

structure Flags04 (c : MonCtx) (s : AState) (failure stoppedDone : Bool) : Prop where
  cfg : s.cfg = c.cfg
  fail : failure = failing s.phase
  stopd : gracefulEnd s.phase = true → stoppedDone = true

@[simp] theorem next04_failure (c σ l) :
    (next04 c σ l).failure = (if failsActor c.cfg.failOnTimeout l then true else σ.failure) := by
  unfold next04; simp only; split <;> split <;> split <;> rfl
@[simp] theorem next04_stoppedDone (c σ l) :
    (next04 c σ l).stoppedDone = (match l with
      | .cbBegin _ => false
      | .cbEnd .stopped _ => true
      | _ => σ.stoppedDone) := by
  unfold next04; simp only; split <;> split <;> split <;> simp_all
@[simp] theorem next04_terminated (c σ l) :
    (next04 c σ l).terminated = (if l.terminates then true else σ.terminated) := by
  unfold next04; simp only; split <;> split <;> split <;> rfl
@[simp] theorem next04_hold (c σ l) : (next04 c σ l).hold = σ.hold.step l := by
  unfold next04; simp only; split <;> split <;> split <;> rfl

theorem next04_other (c : MonCtx) (σ : C04St) {l : Label} (hl : l.isLoop = false) :
    (next04 c σ l).failure = σ.failure ∧ (next04 c σ l).stoppedDone = σ.stoppedDone := by
  cases l <;> first | exact ⟨rfl, rfl⟩ | cases hl

theorem flags04_step (w : Wiring) (c : MonCtx) {s s' : AState} {σ : C04St} {l : Label}
    (hi : Flags04 c s σ.failure σ.stoppedDone) (hs : step w s l = some s') :
    Flags04 c s' (next04 c σ l).failure (next04 c σ l).stoppedDone := by
  obtain ⟨hcfg, hfail, hstop⟩ := hi
  cases hl : l.isLoop
  · obtain ⟨h1, h2⟩ := next04_other c σ hl
    rw [h1, h2]
    exact ⟨by rw [step_cfg hs, hcfg], by rw [step_phase hs hl]; exact hfail, by rw [step_phase hs hl]; exact hstop⟩
  · refine ⟨(step_cfg hs).trans hcfg, ?_, ?_⟩ <;> cases step_loop hs hl <;> clear hs <;>
      simp_all [failing, gracefulEnd, failsActor, Label.isFailure]

structure C04Inv (c : MonCtx) (s : AState) (σ : C04St) : Prop where
  f : Flags04 c s σ.failure σ.stoppedDone
  h : HInv s σ.hold
  t : TermInv s
  clean : OpsClean s
  term : σ.terminated = s.isDone

theorem retExpect_latch {s : AState} {rec : OpRec} {r : Res} (hk : isLatchKind rec.kind = true)
    (h : s.retExpect rec = some r) :
    (∃ e, rec.st = .failed e ∧ r = .err e) ∨ (rec.st = .pending ∧ s.latchRes = some r) := by
  cases retExpect_row h with
  | failed e hst => exact .inl ⟨e, hst, rfl⟩
  | fired hst _ hl | dropped hst _ hl => exact .inr ⟨hst, by rw [latchRes, hl]⟩
  | sent _ hk' | answered _ _ hk' =>
    cases hkk : rec.kind <;> rw [hkk] at hk hk' <;> first | (cases hk; done) | cases hk'
  | pinged _ hk' | joinedNone _ _ hk' | consumedNone _ _ hk' | joinNone _ hk' | consumeNone _ hk' =>
    rw [hk'] at hk; cases hk
  | cancelled _ hk' =>
    cases hkk : rec.kind <;> rw [hkk] at hk hk' <;> first | (cases hk; done) | (rcases hk' with h | h <;> cases h)
  | joined _ _ _ hk' => rcases hk' with hk' | hk' <;> (rw [hk'] at hk; cases hk)

theorem retExpect_some {s : AState} {rec : OpRec} {f : Final} (h : s.retExpect rec = some (.some f)) :
    rec.st = .joining ∧ s.isDone = true ∧ s.result = some f := by
  cases retExpect_row h with | joined _ hst hd _ hr => exact ⟨hst, hd, hr⟩

theorem c04_step (w : Wiring) (hw : w.notifyAfterStopped = true) (c : MonCtx) {s s' : AState} {σ : C04St}
    {l : Label} (hi : C04Inv c s σ) (hs : step w s l = some s') :
    ∃ σ', (monC04 c).step σ l = some σ' ∧ C04Inv c s' σ' := by
  obtain ⟨hd1, hd2⟩ := step_isDone w hs
  have hterm : (next04 c σ l).terminated = s'.isDone := by
    rw [next04_terminated]
    cases ht : l.terminates
    · exact hi.term.trans (hd2 ht).symm
    · exact (hd1 ht).symm
  have hbad : bad04 σ l = false := by
    cases l <;> try rfl
    case ret o r =>
      obtain ⟨rec, hfind, hexp, -, hro⟩ := stepRet_ops hs
      obtain ⟨hrec, -⟩ := findOp_some_mem hfind
      have hfl := hi.f.fail
      simp only [bad04, hro ▸ hi.h.ops rec hrec]
      split
      · rename_i hlk
        rcases retExpect_latch hlk hexp with ⟨e, hst, rfl⟩ | ⟨-, hres⟩
        · rcases hi.clean rec hrec e hst with rfl | rfl <;> rfl
        · -- the latch is set only once the task is done, fired only after a graceful `stopped`
          have hlatch := hi.t.latch
          unfold latchRes at hres
          cases hlt : s.latch <;> rw [hlt] at hres hlatch <;> cases hres
          · have hp := latchOk_fired hlatch
            simp [hi.f.stopd (by rw [hp]; rfl), hfl, hp, failing]
          · simp [hfl, latchOk_dropped hlatch, failing]
      · split
        · cases r <;> try rfl
          -- the join result is there only after a graceful end
          obtain ⟨-, hdone, hres⟩ := retExpect_some hexp
          have hrok := hi.t.result
          simp only [hres, resultOk, Bool.and_eq_true, beq_iff_eq] at hrok
          have hp := hrok.1.1.1
          simp [hi.f.stopd (by rw [hp]; rfl), hfl, hp, failing, hi.term, hdone]
        · rfl
  exact ⟨next04 c σ l, by simp [monC04, hbad],
    ⟨flags04_step w c hi.f hs, by simpa using hinv_step hi.h hs, termInv_step w hw hs hi.t, opsClean_step hs hi.clean, hterm⟩⟩

theorem c04_init (c : MonCtx) : C04Inv c (AState.init c.cfg c.h0 c.k0) (monC04 c).init :=
  ⟨⟨rfl, rfl, fun h => nomatch h⟩, ⟨rfl, fun _ h => nomatch h⟩, termInv_init _ _ _, opsClean_init _ _ _, rfl⟩

/-- C04 (announcement): for every wiring whose loop notifies after `stopped()`, every run of the actor
model is accepted by `monC04`: awaiting an address, `halt`, `try_halt`, `join` and `consume` resolve
only after the `stopped` callback has finished — Ok / the value exactly when termination was graceful,
the termination error only when the actor failed — for every awaiter, created before or after
termination, whatever else happens. -/
theorem C04_holds (w : Wiring) (hw : w.notifyAfterStopped = true) (c : MonCtx) (ls : List Label) (s : AState)
    (hr : run w (AState.init c.cfg c.h0 c.k0) ls = some s) : (monC04 c).ok ls = true :=
  ok_of_run_lift (monC04 c) w (C04Inv c) (fun _ _ _ _ hi hs => c04_step w hw c hi hs) _ (c04_init c) ls s hr

/-- If the loop notified *before* calling `stopped()` the property fails: an awaiter is released while the
    `stopped` callback is still running. -/
def c04Witness : List Label :=
  [ .cbBegin .started, .cbEnd .started true, .begin 0 0 .await, .stopReq 0 true, .tDeq, .cbBegin .stopped,
    .ret 0 .ok ]
def c04Cfg : Cfg := { cap := none, strat := .only, timeout := none, failOnTimeout := false, stream := false }
def c04Ctx : MonCtx := { cfg := c04Cfg, h0 := 0, k0 := .addr, prompt := true }
example : (monC04 c04Ctx).ok c04Witness = false := by decide

end Hannibal
