import Hannibal.Proofs.C01PQueue
import Hannibal.Props.C04P
import Hannibal.Monitor.C01P
/-
  C01 (the mailbox is FIFO, said of pings): for every wiring, every run of the actor model whose `begin` labels
  carry pairwise distinct operation ids (`opIdsFresh`, implied by `wf01`) is accepted by `monC01p`:

    when a `ping` returns Ok, every message whose send-like operation (`send` / `try_send` / `try_force_send`)
    had returned Ok before the ping's `begin` has had its handler invocation begun.

  Invariant (`C01pInv`): while the receiver exists an acknowledged message - and the message of every pending
  send-like operation - is begun or waits in the mailbox (`a`, `sn`); for every recorded ping whose payload waits
  in the mailbox, each message of its snapshot is begun or waits *ahead of that payload* (`b`); for a record in
  status `pinged` the whole snapshot is begun (`p`) - the loop marks a ping only when it takes its payload from the
  head of the mailbox, i.e. when nothing waits ahead of it.  Submissions go behind everything queued, the loop only
  takes the head, `dropRx` empties the mailbox (the pings behind are cancelled, never `pinged`).

  Freshness of message numbers is NOT needed (the monitor's `begun` only grows); freshness of operation ids is
  (`Props/C01PCurrent.lean`, `c01pReuseOp`).
-/
namespace Hannibal
open AState

theorem monC01p_step (σ : C01pSt) (l : Label) :
    monC01p.step σ l = if bad01p σ l then none else some (next01p σ l) := rfl

theorem next01p_begun_mono (σ : C01pSt) (l : Label) {m : Nat} (h : m ∈ σ.begun) : m ∈ (next01p σ l).begun := by
  cases l <;> try exact h
  case begin o h' k => cases k <;> exact h
  case ret o r => simp only [next01p]; (repeat' split) <;> exact h
  case cbBegin cb => cases cb <;> first | exact h | exact List.mem_cons_of_mem _ h

theorem next01p_begun_new (σ : C01pSt) (m : Nat) : m ∈ (next01p σ (.cbBegin (.handle m))).begun :=
  List.mem_cons_self ..

theorem next01p_acked_cases {σ : C01pSt} {l : Label} {m : Nat} (h : m ∈ (next01p σ l).acked) :
    m ∈ σ.acked ∨ ∃ o, l = .ret o .ok ∧ lookup o σ.sends = some m := by
  cases l <;> try exact .inl h
  case begin o h' k => cases k <;> exact .inl h
  case cbBegin cb => cases cb <;> exact .inl h
  case ret o r =>
    simp only [next01p] at h
    cases hl : lookup o σ.sends with
    | none => simp only [hl] at h; exact .inl h
    | some m0 =>
      simp only [hl] at h
      by_cases hr : r = .ok
      · subst hr
        simp only [beq_self_eq_true, if_true] at h
        rcases List.mem_cons.mp h with rfl | h
        · exact .inr ⟨o, rfl, hl⟩
        · exact .inl h
      · have hr' : (r == Res.ok) = false := by simpa using hr
        simp only [hr', Bool.false_eq_true, if_false] at h
        exact .inl h

theorem next01p_pings_cases {σ : C01pSt} {l : Label} {o : Nat} {before : List Nat}
    (h : lookup o (next01p σ l).pings = some before) :
    lookup o σ.pings = some before ∨ ∃ h', l = .begin o h' .ping ∧ before = σ.acked := by
  cases l <;> try exact .inl h
  case cbBegin cb => cases cb <;> exact .inl h
  case ret o' r => simp only [next01p] at h; revert h; (repeat' split) <;> exact fun h => .inl h
  case begin o' h' k =>
    cases k <;> try exact .inl h
    by_cases ho : o' = o
    · subst ho
      rw [show (next01p σ (.begin o' h' .ping)).pings = (o', σ.acked) :: σ.pings from rfl, lookup_cons_eq] at h
      exact .inr ⟨h', rfl, by simpa using h.symm⟩
    · exact .inl (lookup_cons_ne ho ▸ h)

theorem next01p_sends_cases {σ : C01pSt} {l : Label} {o m : Nat} (h : lookup o (next01p σ l).sends = some m) :
    lookup o σ.sends = some m ∨ ∃ h' k, l = .begin o h' k ∧ sendMsg? k = some m := by
  cases l <;> try exact .inl h
  case cbBegin cb => cases cb <;> exact .inl h
  case ret o' r => simp only [next01p] at h; revert h; (repeat' split) <;> exact fun h => .inl h
  case begin o' h' k =>
    cases k <;> try exact .inl h
    all_goals
      by_cases ho : o' = o
      · subst ho
        simp only [next01p, lookup_cons_eq] at h
        exact .inr ⟨h', _, rfl, by simpa [sendMsg?] using h⟩
      · exact .inl (lookup_cons_ne ho ▸ h)

structure MInv01p (σ : C01pSt) (ops : List (Nat × OpKind)) (seen : List Nat) : Prop where
  sends : ∀ o m, lookup o σ.sends = some m → ∃ k, lookup o ops = some k ∧ sendMsg? k = some m
  pings : ∀ o before, lookup o σ.pings = some before → lookup o ops = some .ping
  seen : ∀ o, o ∉ seen → lookup o ops = none

theorem opsNext4_other01p (ops : List (Nat × OpKind)) (l : Label) (o : Nat) (h : ∀ h' k, l ≠ .begin o h' k) :
    lookup o (opsNext4 ops l) = lookup o ops := by
  cases l <;> simp only [opsNext4]
  case begin o' h' k =>
    exact lookup_cons_ne (fun he => h h' k (by rw [he]))

theorem minv01p_step {σ : C01pSt} {ops : List (Nat × OpKind)} {seen : List Nat} {l : Label}
    (hi : MInv01p σ ops seen) (hf : Fresh04p seen l) :
    MInv01p (next01p σ l) (opsNext4 ops l) (seenNext04p seen l) := by
  refine ⟨?_, ?_, ?_⟩
  · intro o m h
    rcases next01p_sends_cases h with h | ⟨h', k, rfl, hk⟩
    · obtain ⟨k, hk, hm⟩ := hi.sends o m h
      refine ⟨k, ?_, hm⟩
      rw [opsNext4_other01p _ _ _ ?_]; exact hk
      rintro h' k' rfl
      have := hi.seen o (hf o h' k' rfl)
      rw [this] at hk; cases hk
    · exact ⟨k, lookup_cons_eq, hk⟩
  · intro o before h
    rcases next01p_pings_cases h with h | ⟨h', rfl, -⟩
    · have hk := hi.pings o before h
      rw [opsNext4_other01p _ _ _ ?_]; exact hk
      rintro h' k' rfl
      have := hi.seen o (hf o h' k' rfl)
      rw [this] at hk; cases hk
    · exact lookup_cons_eq
  · intro o ho
    cases l <;> simp only [seenNext04p, opsNext4] at ho ⊢ <;> try exact hi.seen o ho
    case begin o' h' k =>
      simp only [List.mem_cons, not_or] at ho
      rw [lookup_cons_ne (fun he => ho.1 he.symm)]
      exact hi.seen o ho.2

structure C01pInv (s : AState) (σ : C01pSt) (ops : List (Nat × OpKind)) (seen : List Nat) : Prop where
  opsT : OpsT s ops
  mon : MInv01p σ ops seen
  qSeen : ∀ o ∈ qpings04p s.chan.queue, o ∈ seen
  a : s.chan.rx = true → ∀ m ∈ σ.acked, m ∈ σ.begun ∨ m ∈ qmsgs s.chan
  sn : s.chan.rx = true → ∀ rec ∈ s.ops, rec.st = .pending → ∀ m, sendMsg? rec.kind = some m →
    m ∈ σ.begun ∨ m ∈ qmsgs s.chan
  b : ∀ o before, lookup o σ.pings = some before → o ∈ qpings04p s.chan.queue →
    ∀ m ∈ before, m ∈ σ.begun ∨ m ∈ aheadOf01p o s.chan.queue
  p : ∀ rec ∈ s.ops, rec.st = .pinged → ∀ before, lookup rec.o σ.pings = some before → ∀ m ∈ before, m ∈ σ.begun

theorem live_step01p {w s s' l} {σ : C01pSt} (hs : step w s l = some s') (hrx' : s'.chan.rx = true) {m : Nat}
    (h : m ∈ σ.begun ∨ m ∈ qmsgs s.chan) : m ∈ (next01p σ l).begun ∨ m ∈ qmsgs s'.chan := by
  rcases h with h | h
  · exact .inl (next01p_begun_mono _ _ h)
  · rcases (qrel_keep01p (step_q hs) hrx').2 m h with h | rfl
    · exact .inr h
    · exact .inl (next01p_begun_new _ _)

theorem msgNo_payloadOf_send01p {o : Nat} {k : OpKind} {m : Nat} (h : sendMsg? k = some m) :
    msgNo (payloadOf o k) = some m := by
  cases k <;> simp [sendMsg?] at h <;> simp [payloadOf, msgNo, h]

theorem inv01p_a_step {w s s' σ ops seen l} (hi : C01pInv s σ ops seen) (hs : step w s l = some s')
    (hrx' : s'.chan.rx = true) : ∀ m ∈ (next01p σ l).acked, m ∈ (next01p σ l).begun ∨ m ∈ qmsgs s'.chan := by
  intro m hm
  have hrx := (qrel_keep01p (step_q hs) hrx').1
  rcases next01p_acked_cases hm with h | ⟨o, rfl, hl⟩
  · exact live_step01p hs hrx' (hi.a hrx m h)
  · have hs' := hs
    simp only [step] at hs'
    obtain ⟨rec, hfind, hexp, -, hro⟩ := stepRet_ops hs'
    obtain ⟨hrec, _⟩ := findOp_some_mem hfind
    obtain ⟨k, hk, hkm⟩ := hi.mon.sends o m hl
    have hkind := hi.opsT rec hrec
    rw [hro, hk] at hkind
    simp at hkind; subst hkind
    have hst := retExpect_send_ok hkm hexp
    exact live_step01p hs hrx' (hi.sn hrx rec hrec hst m hkm)

theorem inv01p_sn_step {w s s' σ ops seen l} (hi : C01pInv s σ ops seen) (hs : step w s l = some s')
    (hrx' : s'.chan.rx = true) : ∀ rec ∈ s'.ops, rec.st = .pending → ∀ m, sendMsg? rec.kind = some m →
      m ∈ (next01p σ l).begun ∨ m ∈ qmsgs s'.chan := by
  intro rec hrec hst m hkm
  have hrx := (qrel_keep01p (step_q hs) hrx').1
  by_cases hb : ∃ o h k, l = .begin o h k
  · obtain ⟨o, h, k, rfl⟩ := hb
    obtain ⟨st, hops, hc⟩ := stepBegin_spec hs
    rw [hops] at hrec
    rcases List.mem_append.mp hrec with hrec | hrec
    · exact live_step01p hs hrx' (hi.sn hrx rec hrec hst m hkm)
    · simp at hrec; subst hrec
      rcases hc with ⟨-, hk | ⟨e, he⟩⟩ | ⟨-, tok, hc, -, -⟩
      · rw [(sendMsg_msg hkm).1] at hk; cases hk
      · rw [he] at hst; cases hst
      · right
        rw [hc, qmsgs_enq]
        simp [msgNo_payloadOf_send01p hkm]
  · obtain ⟨r, hr, -, hk, hupd⟩ := mem_ops_step hs (fun o h k he => hb ⟨o, h, k, he⟩) hrec
    have hst0 : r.st = .pending := by rcases hupd with rfl | ⟨h, -⟩ <;> assumption
    exact live_step01p hs hrx' (hi.sn hrx r hr hst0 m (hk ▸ hkm))

theorem inv01p_b_step {w s s' σ ops seen l} (hi : C01pInv s σ ops seen) (hs : step w s l = some s')
    (hf : Fresh04p seen l) :
    ∀ o before, lookup o (next01p σ l).pings = some before → o ∈ qpings04p s'.chan.queue →
      ∀ m ∈ before, m ∈ (next01p σ l).begun ∨ m ∈ aheadOf01p o s'.chan.queue := by
  intro o before hl hq' m hm
  rcases step_brel01p hs o hq' with ⟨hq, hkeep⟩ | ⟨⟨h, rfl⟩, hrx, hall⟩
  · rcases next01p_pings_cases hl with hl | ⟨h', rfl, -⟩
    · rcases hi.b o before hl hq m hm with hb | hb
      · exact .inl (next01p_begun_mono _ _ hb)
      · rcases hkeep m hb with hb | rfl
        · exact .inr hb
        · exact .inl (next01p_begun_new _ _)
    · exact absurd (hi.qSeen o hq) (hf o h' _ rfl)
  · rcases next01p_pings_cases hl with hl | ⟨h', -, rfl⟩
    · have hk := hi.mon.pings o before hl
      rw [hi.mon.seen o (hf o h _ rfl)] at hk; cases hk
    · rcases hi.a hrx m hm with hb | hb
      · exact .inl (next01p_begun_mono _ _ hb)
      · exact .inr (hall m hb)

theorem inv01p_p_step {w s s' σ ops seen l} (hi : C01pInv s σ ops seen) (hs : step w s l = some s') :
    ∀ rec ∈ s'.ops, rec.st = .pinged → ∀ before, lookup rec.o (next01p σ l).pings = some before →
      ∀ m ∈ before, m ∈ (next01p σ l).begun := by
  intro rec hrec hst before hl m hm
  refine next01p_begun_mono _ _ ?_
  by_cases hb : ∃ o h k, l = .begin o h k
  · obtain ⟨o, h, k, rfl⟩ := hb
    obtain ⟨hfresh, st, hops, hout, -⟩ := stepBegin_ops hs
    rcases List.mem_append.mp (hops ▸ hrec) with hold | hnew
    · rcases next01p_pings_cases hl with hl | ⟨h1, he, _⟩
      · exact hi.p rec hold hst before hl m hm
      · cases he
        exact absurd rfl (findOp_none_ne hfresh rec hold)
    · simp at hnew; subst hnew
      rcases hout.st_cases with h | h | h | h | ⟨h, -⟩ <;> rw [h] at hst <;> cases hst
  · have hnb : ∀ o h k, l ≠ .begin o h k := fun o h k he => hb ⟨o, h, k, he⟩
    have hl0 : lookup rec.o σ.pings = some before := by
      rcases next01p_pings_cases hl with hl | ⟨h1, he, _⟩
      · exact hl
      · exact absurd he (hnb _ _ _)
    cases hedge : l.isOpEdge
    · by_cases hdeq : l = .tDeq
      · -- the loop marks a ping only when its payload is the head entry: nothing waits ahead of it
        subst hdeq
        cases step_loop hs rfl
        case ping e rest o hp hq hrx he =>
          obtain ⟨r, hr, rfl⟩ := List.mem_map.mp hrec
          by_cases hc : (r.o == o && r.st == .pending) = true
          · simp only [hc, if_true] at hl0
            simp only [Bool.and_eq_true, beq_iff_eq] at hc
            have hin : r.o ∈ qpings04p s.chan.queue := by
              rw [hq]; exact mem_qpings_cons01p.mpr (.inl (by rw [he, hc.1]))
            rcases hi.b r.o before hl0 hin m hm with hb | hb
            · exact hb
            · rw [hq, aheadOf01p_cons] at hb
              simp [he, hc.1] at hb
          · simp only [hc] at hst hl0
            exact hi.p r hr hst before hl0 m hm
        all_goals exact hi.p rec hrec hst before hl0 m hm
      · obtain ⟨f, hops, hfine⟩ := step_ops_fine hs hedge
        rw [hops] at hrec
        obtain ⟨r, hr, rfl⟩ := List.mem_map.mp hrec
        obtain ⟨ho, -, -, hst'⟩ := hfine r
        rw [ho] at hl0
        have hst0 : r.st = .pinged := by
          rcases hst' with hst' | ⟨_, hst' | ⟨he, _⟩ | ⟨m', b', d', _, hst'⟩⟩
          · rw [← hst']; exact hst
          · rw [hst'] at hst; cases hst
          · exact absurd he hdeq
          · rw [hst'] at hst; cases hst
        exact hi.p r hr hst0 before hl0 m hm
    · obtain ⟨hr, -⟩ := (edge_ops hs hedge rec hrec).resolve_right fun ⟨o, h, k, _, hl, _⟩ => hnb o h k hl
      exact hi.p rec hr hst before hl0 m hm

theorem inv01p_bad {w s s' σ ops seen l} (hi : C01pInv s σ ops seen) (hs : step w s l = some s') :
    bad01p σ l = false := by
  cases l <;> try rfl
  case ret o r =>
    simp only [bad01p]
    cases hl : lookup o σ.pings with
    | none => rfl
    | some before =>
      simp only
      by_cases hr : r = .ok
      · subst hr
        simp only [step] at hs
        obtain ⟨rec, hfind, hexp, -, hro⟩ := stepRet_ops hs
        obtain ⟨hrec, _⟩ := findOp_some_mem hfind
        have hkind := hi.opsT rec hrec
        rw [hro, hi.mon.pings o before hl] at hkind
        simp at hkind
        have hst := retExpect_ping_ok04p hkind.symm hexp
        have hall := hi.p rec hrec hst before (by rw [hro]; exact hl)
        simp only [beq_self_eq_true, Bool.true_and]
        rw [Bool.eq_false_iff]
        intro hany
        obtain ⟨m, hm, hnc⟩ := List.any_eq_true.mp hany
        have := hall m hm
        simp [this] at hnc
      · have hr' : (r == Res.ok) = false := by simpa using hr
        simp [hr']

theorem c01p_step (w : Wiring) {s s' : AState} {σ : C01pSt} {ops : List (Nat × OpKind)} {seen : List Nat}
    {l : Label} (hi : C01pInv s σ ops seen) (hs : step w s l = some s') (hf : Fresh04p seen l) :
    bad01p σ l = false ∧ C01pInv s' (next01p σ l) (opsNext4 ops l) (seenNext04p seen l) := by
  refine ⟨inv01p_bad hi hs, ?_⟩
  refine
    { opsT := opsT_step hi.opsT hs
      mon := minv01p_step hi.mon hf
      qSeen := ?_
      a := fun hrx' => inv01p_a_step hi hs hrx'
      sn := fun hrx' => inv01p_sn_step hi hs hrx'
      b := inv01p_b_step hi hs hf
      p := inv01p_p_step hi hs }
  intro o ho
  rcases (step_prel04p hs).1 o ho with hq | ⟨h, rfl⟩
  · exact seenNext04p_mono _ _ (hi.qSeen o hq)
  · simp [seenNext04p]

theorem c01p_init (cfg : Cfg) (h0 : Nat) (k0 : HKind) :
    C01pInv (AState.init cfg h0 k0) monC01p.init [] [] := by
  refine
    { opsT := by intro r hr; simp [AState.init] at hr
      mon := ⟨by simp [monC01p, lookup], by simp [monC01p, lookup], by simp [lookup]⟩
      qSeen := by simp [AState.init, Chan.init]
      a := by simp [monC01p]
      sn := by intro _ r hr; simp [AState.init] at hr
      b := by simp [monC01p, lookup]
      p := by intro r hr; simp [AState.init] at hr }

/-- **C01 (the mailbox is FIFO, pings).**  In every run of the actor model — every wiring, both mailbox kinds,
    every handle kind, waiting and forcing path, timers, ticks and broadcasts in the mailbox, restarts,
    stream-attached actors, every termination cause — whose trace never re-uses an operation id: when a `ping`
    returns Ok, every message whose `send` / `try_send` / `try_force_send` had returned Ok before the ping began
    has had its handler invocation begun. -/
theorem C01p_holds_fresh (w : Wiring) (c : MonCtx) (ls : List Label) (s : AState)
    (hr : run w (AState.init c.cfg c.h0 c.k0) ls = some s) (hfresh : opIdsFresh ls = true) :
    monC01p.ok ls = true := by
  refine ok_of_run_lift_wf monC01p (monC02wf default) w (fun s σ seen => ∃ ops, C01pInv s σ ops seen) ?_
    _ ⟨[], c01p_init _ _ _⟩ ls s hr hfresh
  rintro s s' σ seen seen1 l ⟨ops, hi⟩ hs hws
  obtain ⟨hf, rfl⟩ := wf_step04p hws
  obtain ⟨hbad, hi1⟩ := c01p_step w hi hs hf
  exact ⟨_, by rw [monC01p_step, hbad]; rfl, _, hi1⟩

/-- the same under `wf01` (fresh message numbers and operation ids; only the latter is used) -/
theorem C01p_holds (w : Wiring) (c : MonCtx) (ls : List Label) (s : AState)
    (hr : run w (AState.init c.cfg c.h0 c.k0) ls = some s) (hwf : wf01 ls = true) : monC01p.ok ls = true :=
  C01p_holds_fresh w c ls s hr (wf01_opIdsFresh04p ls hwf)

/-! ### non-vacuity (monitor level; the runs of the model are in `Props/C01PCurrent.lean`) -/

/-- the actor is busy with message 1 when message 2 is acknowledged; ping 2 begins; the actor finishes its
    handler, handles message 2, takes the ping; the ping returns Ok -/
def c01pExample : List Label :=
  [ .cbBegin .started, .cbEnd .started true,
    .begin 0 0 (.send 1), .ret 0 .ok, .cbBegin (.handle 1),
    .begin 1 0 (.send 2), .ret 1 .ok,
    .begin 2 0 .ping,
    .cbEnd (.handle 1) true,
    .cbBegin (.handle 2), .cbEnd (.handle 2) true,
    .tDeq, .ret 2 .ok ]

example : monC01p.ok c01pExample = true := by decide
example : opIdsFresh c01pExample = true := by decide
example : wf01 c01pExample = true := by decide

/-- the ping returns Ok while acknowledged message 2 has not been handled -/
example : monC01p.ok (c01pExample.take 9 ++ [.ret 2 .ok]) = false := by decide
/-- the ping overtakes a message acknowledged to another task (try_send through a weak sender) -/
example : monC01p.ok [ .cbBegin .started, .cbEnd .started true, .mk 0 1 .weakSender,
    .begin 0 1 (.trySend 1), .ret 0 .ok, .begin 1 0 .ping, .tDeq, .ret 1 .ok ] = false := by decide
/-- a forced submission counts as well -/
example : monC01p.ok [ .cbBegin .started, .cbEnd .started true, .mk 0 1 .weakSender,
    .begin 0 1 (.tryForce 1), .ret 0 .ok, .begin 1 0 .ping, .tDeq, .ret 1 .ok ] = false := by decide
/-- a send acknowledged only AFTER the ping began does not constrain the ping -/
example : monC01p.ok [ .cbBegin .started, .cbEnd .started true,
    .begin 1 0 .ping, .begin 0 0 (.send 1), .ret 0 .ok, .tDeq, .ret 1 .ok ] = true := by decide
/-- neither does a send that failed -/
example : monC01p.ok [ .cbBegin .started, .cbEnd .started true,
    .begin 0 0 (.send 1), .ret 0 (.err .send), .begin 1 0 .ping, .tDeq, .ret 1 .ok ] = true := by decide
/-- a ping that returns an error is never a violation -/
example : monC01p.ok [ .cbBegin .started, .cbEnd .started true,
    .begin 0 0 (.send 1), .ret 0 .ok, .begin 1 0 .ping, .ret 1 (.err .canceled) ] = true := by decide

end Hannibal
