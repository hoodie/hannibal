import Hannibal.Proofs.Step
import Hannibal.Proofs.Run
import Hannibal.Monitor.C03
/-
  C03 — lifecycle callbacks follow the started / handle* / stopped protocol.

  The monitor state is a function of the model's phase: every run of the actor
  model (plain and stream-attached loops, all three restart strategies, all
  termination causes, messages and ticks still queued at termination) is
  accepted by `monC03`.
-/
namespace Hannibal
open AState

def l3of : Phase → L3
  | .unstarted => .fresh
  | .starting => .inStarted
  | .idle => .running
  | .handling _ _ _ => .inHandler
  | .rstBegin => .running
  | .rstStopping => .inStopped
  | .rstStopped _ => .afterStopped
  | .leaving => .running
  | .finishing => .inFinished
  | .finishedDone => .afterFinished
  | .stopping => .inStopped
  | .exiting true => .afterStopped
  | .exiting false => .failed
  | .done true => .ended
  | .done false => .failed

def RstOk (s : AState) : Prop :=
  (s.phase = .rstBegin ∨ s.phase = .rstStopping ∨ ∃ f, s.phase = .rstStopped f) →
    s.cfg.stream = false ∧ s.cfg.strat ≠ .non

/-- a refresh begins only by dequeuing a restart request that a plain, restartable actor takes -/
theorem rstOk_step {w : Wiring} {s s' : AState} {l : Label} (hs : step w s l = some s') (h : RstOk s) : RstOk s' := by
  unfold RstOk at *
  cases hl : l.isLoop
  · rw [step_phase hs hl, step_cfg hs]; exact h
  · cases step_loop hs hl <;> simp_all

def StreamOk (s : AState) : Prop :=
  (s.phase = .finishing ∨ s.phase = .finishedDone) → s.cfg.stream = true

structure C03Inv (c : MonCtx) (s : AState) (ph : L3) : Prop where
  ph : ph = l3of s.phase
  cfg : s.cfg = c.cfg
  rst : RstOk s
  str : StreamOk s

theorem monC03_other (c : MonCtx) (ph : L3) {l : Label} (hl : l.isLoop = false) :
    (monC03 c).step ph l = some ph := by
  cases l <;> first | rfl | cases hl

theorem c03_step (w : Wiring) (c : MonCtx) {s s' : AState} {ph : L3} {l : Label}
    (hi : C03Inv c s ph) (hs : step w s l = some s') :
    ∃ ph', (monC03 c).step ph l = some ph' ∧ C03Inv c s' ph' := by
  obtain ⟨rfl, hcfg, hrst, hstr⟩ := hi
  have hrst' := rstOk_step hs hrst
  unfold RstOk at hrst; unfold StreamOk at hstr
  have hcfg' := (step_cfg hs).trans hcfg
  cases hl : l.isLoop
  · refine ⟨_, monC03_other c _ hl, by rw [step_phase hs hl], hcfg', hrst', ?_⟩
    unfold StreamOk; rw [step_phase hs hl, step_cfg hs]; exact hstr
  -- `dsimp` first: the monitor must be evaluated on the concrete label
  cases step_loop hs hl <;> clear hs <;> refine ⟨_, ?_, ⟨rfl, hcfg', hrst', ?_⟩⟩ <;> clear hcfg' hrst' <;>
    dsimp only [monC03, StreamOk] <;> simp_all [l3of]

theorem c03_init (c : MonCtx) : C03Inv c (AState.init c.cfg c.h0 c.k0) (monC03 c).init :=
  ⟨rfl, rfl, by simp [RstOk, AState.init], by simp [StreamOk, AState.init]⟩

/-- **C03.** Every run of the actor model — any client program and interleaving, every
    termination cause, plain or stream-attached, every restart strategy, with messages and
    ticks still queued at termination — produces a callback sequence accepted by `monC03`:
    `started` exactly once and completed before any handler, handlers never overlapping other
    callbacks, `stopped` (after `finished` for stream-attached actors) exactly once at the end
    or between incarnations, nothing after the end or after a failure, and no handler at all
    after a failed `started`. -/
theorem C03_holds (w : Wiring) (c : MonCtx) (ls : List Label) (s : AState)
    (hr : run w (AState.init c.cfg c.h0 c.k0) ls = some s) : (monC03 c).ok ls = true :=
  ok_of_run_lift (monC03 c) w (C03Inv c) (fun _ _ _ _ hi hs => c03_step w c hi hs) _ (c03_init c) ls s hr

/-- Non-vacuity: a restart in the middle of a run, then a graceful stop. -/
def c03Example : List Label :=
  [ .cbBegin .started, .cbEnd .started true, .begin 0 0 (.send 1), .restartReq 0 true, .stopReq 0 true,
    .cbBegin (.handle 1), .cbEnd (.handle 1) true, .tDeq, .cbBegin .stopped, .cbEnd .stopped true,
    .cbBegin .started, .cbEnd .started true, .tDeq, .cbBegin .stopped, .cbEnd .stopped true, .taskDone ]

def c03Cfg : Cfg := { cap := none, strat := .only, timeout := none, failOnTimeout := false, stream := false }

example : (monC03 { cfg := c03Cfg, h0 := 0, k0 := .addr, prompt := true }).ok c03Example = true := by decide
/-- skipping `stopped` is refused by the model and flagged by the monitor -/
example : (monC03 { cfg := c03Cfg, h0 := 0, k0 := .addr, prompt := true }).ok
    [ .cbBegin .started, .cbEnd .started true, .stopReq 0 true, .tDeq, .taskDone ] = false := by decide

end Hannibal
