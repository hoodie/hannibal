import Hannibal.Proofs.C06Ops
import Hannibal.Proofs.Term
import Hannibal.Proofs.Timers
import Hannibal.Proofs.Run
import Hannibal.Props.C04
import Hannibal.Props.C06Split
namespace Hannibal
open AState

theorem next06_eq (c : MonCtx) (σ : C06St) (l : Label) :
    next06 c σ l =
      { failed := if fails06 c.cfg.failOnTimeout l then true else σ.failed
        terminated := if l.terminates then true else σ.terminated
        ops := (match l with
          | .begin o _ k => (o, (k, σ.failed)) :: σ.ops
          | _ => σ.ops)
        finishedOk := (match l with
          | .cbEnd (.handle m) true => m :: σ.finishedOk
          | _ => σ.finishedOk)
        timers := (match l with
          | .ctxTimer t _ _ => (t, false) :: σ.timers
          | .timerEnd t => σ.timers.map (fun p => if p.1 == t then (t, true) else p)
          | _ => σ.timers) } := by
  obtain ⟨⟨_, _, _, b, _⟩, _, _, _⟩ := c
  cases l
  case cbEnd cb ok => cases cb <;> cases ok <;> rfl
  case cbAbandon => cases b <;> rfl
  all_goals rfl

@[simp] theorem next06_failed (c σ l) :
    (next06 c σ l).failed = (if fails06 c.cfg.failOnTimeout l then true else σ.failed) := by
  rw [next06_eq]

@[simp] theorem next06_terminated (c σ l) :
    (next06 c σ l).terminated = (if l.terminates then true else σ.terminated) := by
  rw [next06_eq]

@[simp] theorem next06_ops (c σ l) :
    (next06 c σ l).ops = (match l with
      | .begin o _ k => (o, (k, σ.failed)) :: σ.ops
      | _ => σ.ops) := by
  rw [next06_eq]

@[simp] theorem next06_finishedOk (c σ l) :
    (next06 c σ l).finishedOk = (match l with
      | .cbEnd (.handle m) true => m :: σ.finishedOk
      | _ => σ.finishedOk) := by
  rw [next06_eq]

@[simp] theorem next06_timers (c σ l) :
    (next06 c σ l).timers = (match l with
      | .ctxTimer t _ _ => (t, false) :: σ.timers
      | .timerEnd t => σ.timers.map (fun p => if p.1 == t then (t, true) else p)
      | _ => σ.timers) := by
  rw [next06_eq]

theorem fails06_eq (b : Bool) (l : Label) : fails06 b l = failsActor b l := by
  cases l <;> rfl

structure Flags06 (c : MonCtx) (s : AState) (σ : C06St) : Prop where
  f04 : ∃ sd, Flags04 c s σ.failed sd
  term : σ.terminated = s.isDone

theorem Flags06.fail {c s σ} (h : Flags06 c s σ) : σ.failed = failing s.phase := by
  obtain ⟨⟨_, h⟩, _⟩ := h; exact h.fail

/-- a C04 monitor state carrying our failure flag (to reuse `flags04_step`) -/
def ghost04 (σ : C06St) (sd : Bool) : C04St :=
  { hold := HoldSt.init 0 .addr, failure := σ.failed, stoppedDone := sd, terminated := false }

theorem flags06_step (w : Wiring) (c : MonCtx) {s s' : AState} {σ : C06St} {l : Label}
    (hi : Flags06 c s σ) (hs : step w s l = some s') : Flags06 c s' (next06 c σ l) := by
  obtain ⟨⟨sd, hf⟩, ht⟩ := hi
  have h4 := flags04_step w c (σ := ghost04 σ sd) hf hs
  obtain ⟨hd1, hd2⟩ := step_isDone w hs
  have hfe : (next04 c (ghost04 σ sd) l).failure = (next06 c σ l).failed := by
    rw [next04_failure, next06_failed, fails06_eq]; rfl
  rw [hfe] at h4
  refine ⟨⟨_, h4⟩, ?_⟩
  rw [next06_terminated]
  cases hterm : l.terminates
  · rw [hd2 hterm]; exact ht
  · exact (hd1 hterm).symm

theorem not_failing_of_loop {w : Wiring} {s s' : AState} {l : Label} (hs : step w s l = some s')
    (hl : l = .tDeq ∨ (∃ cb ok, l = .cbEnd cb ok) ∨ ∃ cb, l = .cbBegin cb) : failing s.phase = false := by
  rcases hl with rfl | ⟨cb, ok, rfl⟩ | ⟨cb, rfl⟩ <;> cases step_loop hs rfl <;> (rw [‹s.phase = _›]; rfl)

def OpOk06 (σ : C06St) (r : OpRec) : Prop :=
  ∃ late, lookup r.o σ.ops = some (r.kind, late) ∧
    (r.st = .pinged → late = false) ∧
    (∀ rep, r.st = .answered rep → late = false ∧ rep.m ∈ σ.finishedOk)

def OpsInv06 (s : AState) (σ : C06St) : Prop := ∀ r ∈ s.ops, OpOk06 σ r

def Early06 (σ : C06St) : Prop := σ.failed = false → ∀ p ∈ σ.ops, p.2.2 = false

theorem early06_step (c : MonCtx) {σ : C06St} {l : Label} (hi : Early06 σ) : Early06 (next06 c σ l) := by
  intro hf p hp
  rw [next06_failed] at hf
  have hf0 : σ.failed = false := by
    split at hf
    · cases hf
    · exact hf
  rw [next06_ops] at hp
  split at hp
  · rcases List.mem_cons.mp hp with rfl | hp
    · exact hf0
    · exact hi hf0 p hp
  · exact hi hf0 p hp

theorem next06_fin_mono (c : MonCtx) (σ : C06St) (l : Label) {m : Nat} (h : m ∈ σ.finishedOk) :
    m ∈ (next06 c σ l).finishedOk := by
  rw [next06_finishedOk]
  split
  · exact List.mem_cons_of_mem _ h
  · exact h

theorem opsInv06_step (w : Wiring) (c : MonCtx) {s s' : AState} {σ : C06St} {l : Label}
    (hfl : σ.failed = failing s.phase) (he : Early06 σ) (hi : OpsInv06 s σ) (hs : step w s l = some s') :
    OpsInv06 s' (next06 c σ l) := by
  cases hedge : l.isOpEdge
  · -- the loop resolves a pending operation only while it has not failed: nothing is late yet
    obtain ⟨f, hf, pf⟩ := step_ops_fine hs hedge
    have hσops : (next06 c σ l).ops = σ.ops := by
      rw [next06_ops]; cases l <;> first | rfl | cases hedge
    intro r' hr'
    rw [hf] at hr'
    obtain ⟨r, hr, rfl⟩ := List.mem_map.mp hr'
    obtain ⟨ho, hk, _, hst⟩ := pf r
    obtain ⟨late, h1, h2, h3⟩ := hi r hr
    have hearly : failing s.phase = false → late = false := fun hnf => he (hfl.trans hnf) _ (lookup_mem h1)
    refine ⟨late, by rw [hσops, ho, hk]; exact h1, ?_, ?_⟩
    · intro hp
      rcases hst with hst | ⟨-, hst | ⟨rfl, -⟩ | ⟨m, b, d, -, hst⟩⟩
      · exact h2 (hst ▸ hp)
      · rw [hst] at hp; cases hp
      · exact hearly (not_failing_of_loop hs (.inl rfl))
      · rw [hst] at hp; cases hp
    · intro rep hp
      rcases hst with hst | ⟨-, hst | ⟨-, hst⟩ | ⟨m, b, d, rfl, hst⟩⟩
      · obtain ⟨a, b⟩ := h3 rep (hst ▸ hp)
        exact ⟨a, next06_fin_mono c σ l b⟩
      · rw [hst] at hp; cases hp
      · rw [hst] at hp; cases hp
      · obtain rfl : ({ m, birth := b, digest := d } : Reply) = rep := OpSt.answered.inj (hst ▸ hp)
        exact ⟨hearly (not_failing_of_loop hs (.inr (.inl ⟨_, _, rfl⟩))),
          by rw [next06_finishedOk]; exact List.mem_cons_self⟩
  · cases l <;> first | (cases hedge; done) | skip
    case begin o h k =>
      obtain ⟨hfresh, st, hops, hout, -⟩ := stepBegin_ops hs
      have hst := hout.st_cases
      have hne := findOp_none_ne hfresh
      intro r hr
      rw [hops] at hr
      rcases List.mem_append.mp hr with hr | hr
      · obtain ⟨late, h1, h2, h3⟩ := hi r hr
        refine ⟨late, ?_, h2, h3⟩
        rw [next06_ops]
        exact (lookup_cons_ne (hne r hr).symm).trans h1
      · obtain rfl := List.mem_singleton.mp hr
        refine ⟨σ.failed, by rw [next06_ops]; exact lookup_cons_eq, ?_, ?_⟩
        · rintro (rfl : st = .pinged); rcases hst with h | h | h | h | ⟨h, -⟩ <;> cases h
        · rintro rep (rfl : st = .answered rep); rcases hst with h | h | h | h | ⟨h, -⟩ <;> cases h
    case ret | cdrop =>
      intro r0 hr0
      exact hi r0 ((step_removes hs rfl (fun _ _ _ h => Label.noConfusion h)).1 r0 hr0)

def TimersInv06 (s : AState) (σ : C06St) : Prop :=
  ∀ p ∈ σ.timers, p.2 = false → ∃ x ∈ s.timers, x.id = p.1 ∧ x.st ≠ .ended

theorem timersInv06_step (w : Wiring) (c : MonCtx) {s s' : AState} {σ : C06St} {l : Label}
    (hi : TimersInv06 s σ) (hs : step w s l = some s') : TimersInv06 s' (next06 c σ l) := by
  by_cases hct : ∃ t k d, l = .ctxTimer t k d
  · obtain ⟨t, k, d, rfl⟩ := hct
    obtain ⟨-, -, rfl⟩ := stepCtxTimer_cases hs
    intro p hp hpe
    rw [next06_timers] at hp
    rcases List.mem_cons.mp hp with rfl | hp
    · exact ⟨{ id := t, kind := k, d, st := .spawned }, List.mem_append_right _ List.mem_cons_self, rfl,
        fun h => TimerSt.noConfusion h⟩
    · obtain ⟨x, hx, h1, h2⟩ := hi p hp hpe
      exact ⟨x, List.mem_append_left _ hx, h1, h2⟩
  · obtain ⟨k, hk, pk⟩ := step_timers_map hs (fun t k d h => hct ⟨t, k, d, h⟩)
    have keep : ∀ q ∈ σ.timers, q.2 = false → (∀ t, l = .timerEnd t → q.1 ≠ t) →
        ∃ x ∈ s'.timers, x.id = q.1 ∧ x.st ≠ .ended := by
      intro q hq hqe hne
      obtain ⟨x, hx, h1, h2⟩ := hi q hq hqe
      refine ⟨k x, hk ▸ List.mem_map_of_mem hx, (pk x).1.trans h1, fun he => ?_⟩
      rcases (pk x).2 with h | ⟨-, h⟩ | ⟨h, -⟩ | ⟨-, h⟩
      · exact h2 (h.trans he)
      · exact h he
      · exact hne _ h h1.symm
      · rw [he] at h; rcases h with h | h <;> cases h
    intro p hp hpe
    rw [next06_timers] at hp
    split at hp
    · exact absurd ⟨_, _, _, rfl⟩ hct
    · rename_i t
      obtain ⟨q, hq, rfl⟩ := List.mem_map.mp hp
      by_cases hqt : q.1 = t
      · simp [hqt] at hpe
      · have hb : (q.1 == t) = false := by simp [hqt]
        simp only [hb, Bool.false_eq_true, if_false] at hpe ⊢
        exact keep q hq hpe (fun t' h => by cases h; exact hqt)
    · rename_i h1 h2
      exact keep p hp hpe (fun t h => absurd h (h2 t))

theorem retBad06_err (k : OpKind) (late : Bool) (fin : List Nat) (e : ErrKind) :
    retBad06 k late fin (.err e) = false := by
  cases k <;> rfl

theorem retBad06_false {s : AState} {rec : OpRec} {r : Res} {late : Bool} {fin : List Nat}
    (hexp : s.retExpect rec = some r) (hfail : failing s.phase = true) (ht : TermInv s)
    (hp : rec.st = .pinged → late = false)
    (ha : ∀ rep, rec.st = .answered rep → late = false ∧ rep.m ∈ fin) :
    retBad06 rec.kind late fin r = false := by
  have hng : s.phase ≠ .done true := fun h => by rw [h] at hfail; cases hfail
  have hL : s.latchRes = some r → r = .err .canceled := by
    intro h
    unfold latchRes at h
    cases hl : s.latch <;> rw [hl] at h
    · cases h
    · exact absurd (latchOk_fired (hl ▸ ht.latch)) hng
    · exact (Option.some.inj h).symm
  have hres : s.result = none := by
    cases hrs : s.result with
    | none => rfl
    | some f =>
      have := hrs ▸ ht.result
      simp only [resultOk, Bool.and_eq_true, beq_iff_eq] at this
      exact absurd this.1.1.1 hng
  unfold retExpect at hexp
  cases hst : rec.st <;> simp only [hst] at hexp
  case failed e => cases hexp; exact retBad06_err ..
  case pending =>
    cases hk : rec.kind <;> simp only [hk] at hexp
    case send | trySend | tryForce => split at hexp <;> cases hexp; rfl
    case halt | tryHalt | await => cases hL hexp; rfl
    all_goals cases hexp
  case answered v =>
    obtain ⟨rfl, h2⟩ := ha v hst
    cases hk : rec.kind <;> simp only [hk] at hexp
    case call | callw | tryCall =>
      cases hexp
      show (!(true && true && fin.contains v.m)) = false
      rw [List.contains_iff_mem.mpr h2]; rfl
    all_goals cases hexp
  case pinged =>
    split at hexp
    · rename_i hk; cases hexp; rw [hk]; exact hp hst
    · cases hexp
  case cancelled => split at hexp <;> cases hexp <;> exact retBad06_err ..
  case joining =>
    rw [hres] at hexp
    split at hexp
    · cases hk : rec.kind <;> simp only [hk] at hexp <;> cases hexp <;> rfl
    · cases hexp
  case joinNone => cases hk : rec.kind <;> simp only [hk] at hexp <;> cases hexp <;> rfl

structure C06Inv (c : MonCtx) (s : AState) (σ : C06St) : Prop where
  f : Flags06 c s σ
  t : TermInv s
  ops : OpsInv06 s σ
  early : Early06 σ
  dead : s.isDone = true → AllDead s
  tim : TimersInv06 s σ

theorem c06_bad (w : Wiring) (c : MonCtx) {s s' : AState} {σ : C06St} {l : Label}
    (hi : C06Inv c s σ) (hs : step w s l = some s') : bad06 σ l = false := by
  have hfl := hi.f.fail
  have hlive : ∀ t x, s.findTimer t = some x → ¬ x.Dead → (σ.failed && σ.terminated) = false := by
    intro t x hx hnd
    rw [hi.f.term]
    cases hdn : s.isDone
    · exact Bool.and_false _
    · exact absurd (hi.dead hdn x (findTimer_mem hx).1) hnd
  cases l
  case cbBegin cb => exact hfl.trans (not_failing_of_loop hs (.inr (.inr ⟨cb, rfl⟩)))
  case fire t m =>
    obtain ⟨x, due, hx, hst, -⟩ := stepFire_cases hs
    exact hlive t x hx (by simp [Timer.Dead, hst])
  case timerArm t due =>
    obtain ⟨x, hx, -, hst | ⟨old, hst, -⟩ | ⟨hst, -⟩⟩ := stepTimerArm_cases hs <;>
      exact hlive t x hx (by simp [Timer.Dead, hst])
  case tickBegin t m =>
    show (σ.failed && σ.terminated) = false
    rw [hi.f.term, not_done_of_begin hs (.inr ⟨t, m, rfl⟩)]; exact Bool.and_false _
  case ret o r =>
    show (σ.failed && _) = false
    cases hf : σ.failed
    · rfl
    · obtain ⟨rec, hfind, hexp, -⟩ := stepRet_cases hs
      obtain ⟨hrec, rfl⟩ := findOp_some_mem hfind
      obtain ⟨late, h1, h2, h3⟩ := hi.ops rec hrec
      rw [h1]
      exact retBad06_false hexp (by rw [← hfl]; exact hf) hi.t h2 h3
  case quiescent pend =>
    show (σ.failed && !σ.timers.all (·.2)) = false
    cases hf : σ.failed
    · rfl
    · obtain ⟨hq, -⟩ := stepQuiescent_cases hs
      simp only [quiet, Bool.and_eq_true, List.all_eq_true, beq_iff_eq] at hq
      simp only [Bool.true_and, Bool.not_eq_eq_eq_not, Bool.not_false, List.all_eq_true]
      intro p hp
      cases hp2 : p.2
      · obtain ⟨x, hx, _, hne⟩ := hi.tim p hp hp2
        exact absurd (hq.1.2 x hx) hne
      · rfl
  all_goals rfl

theorem c06_step (w : Wiring) (hw : w.notifyAfterStopped = true) (c : MonCtx) {s s' : AState} {σ : C06St}
    {l : Label} (hi : C06Inv c s σ) (hs : step w s l = some s') :
    ∃ σ', (monC06 c).step σ l = some σ' ∧ C06Inv c s' σ' :=
  ⟨next06 c σ l, if_neg (by rw [c06_bad w c hi hs]; exact Bool.false_ne_true),
    ⟨flags06_step w c hi.f hs, termInv_step w hw hs hi.t,
     opsInv06_step w c hi.f.fail hi.early hi.ops hs, early06_step c hi.early,
     allDead_done_step w hi.dead hs, timersInv06_step w c hi.tim hs⟩⟩

theorem c06_init (c : MonCtx) : C06Inv c (AState.init c.cfg c.h0 c.k0) (monC06 c).init :=
  ⟨⟨⟨false, rfl, rfl, fun h => Bool.noConfusion h⟩, rfl⟩, termInv_init _ _ _, fun _ h => (nomatch h),
    fun _ _ h => (nomatch h), fun h => Bool.noConfusion h, fun _ h => (nomatch h)⟩

/-- C06 (a failed actor is visible as errors, single-actor part): for every wiring whose loop notifies
after `stopped()`, every run of the actor model is accepted by `monC06`. -/
theorem C06_holds (w : Wiring) (hw : w.notifyAfterStopped = true) (c : MonCtx) (ls : List Label) (s : AState)
    (hr : run w (AState.init c.cfg c.h0 c.k0) ls = some s) : (monC06 c).ok ls = true :=
  ok_of_run_lift (monC06 c) w (C06Inv c) (fun _ _ _ _ hi hs => c06_step w hw c hi hs) _ (c06_init c) ls s hr

def c06Cfg : Cfg := { cap := none, strat := .only, timeout := none, failOnTimeout := false, stream := false }
def c06Ctx : MonCtx := { cfg := c06Cfg, h0 := 0, k0 := .owning, prompt := true }

/-- a call is answered, then a handler panics: the call in flight, a late ping, an awaiter and `join` all
    resolve with an error / `None`, the timer ends, nothing is pending at quiescence -/
def c06Example : List Label :=
  [ .cbBegin .started, .ctxTimer 0 .intervalWith 5, .cbEnd .started true, .timerArm 0 5, .mk 0 1 .addr,
    .begin 1 0 (.call 7), .cbBegin (.handle 7), .cbEnd (.handle 7) true,
    .ret 1 (.okReply { m := 7, birth := 0, digest := [7] }),
    .begin 2 0 (.call 8), .begin 3 1 .await, .cbBegin (.handle 8), .cbPanic (.handle 8),
    .ret 2 (.err .canceled), .begin 4 0 .ping, .taskDone, .ret 4 (.err .canceled), .ret 3 (.err .canceled),
    .begin 5 0 .join, .ret 5 .none, .timerEnd 0, .quiescent [] ]
example : (monC06 c06Ctx).ok c06Example = true := by decide
example : (monC06t c06Ctx).ok c06Example = true := by decide
example : (monC06orig c06Ctx).ok c06Example = true := by decide

/-- a callback begins after the failure -/
example : (monC06 c06Ctx).ok [ .cbBegin .started, .cbPanic .started, .cbBegin (.handle 1) ] = false := by decide
/-- an awaiter of a cancelled actor gets Ok -/
example : (monC06 c06Ctx).ok [ .cbBegin .started, .cbEnd .started true, .mk 0 1 .addr, .begin 1 1 .await, .cancel,
    .ret 1 .ok ] = false := by decide
/-- `join` hands out a value after a failure -/
example : (monC06 c06Ctx).ok [ .cbBegin .started, .cbEnd .started false, .taskDone, .begin 1 0 .join,
    .ret 1 (.some { birth := 0, stoppedSeen := true, digest := [] }) ] = false := by decide
/-- a call begun after the failure is answered -/
example : (monC06 c06Ctx).ok [ .cbBegin .started, .cbEnd .started true, .cbBegin (.handle 7), .cbEnd (.handle 7) true,
    .cbBegin (.handle 8), .cbPanic (.handle 8), .begin 1 0 (.call 7),
    .ret 1 (.okReply { m := 7, birth := 0, digest := [7] }) ] = false := by decide
/-- a call whose handler never completed is answered after the failure -/
example : (monC06 c06Ctx).ok [ .cbBegin .started, .cbEnd .started true, .begin 1 0 (.call 8), .cbBegin (.handle 8),
    .cbPanic (.handle 8), .ret 1 (.okReply { m := 8, birth := 0, digest := [8] }) ] = false := by decide
/-- a timer fires after the failed actor's task is gone -/
example : (monC06 c06Ctx).ok [ .cbBegin .started, .ctxTimer 0 .intervalWith 5, .cbEnd .started true, .timerArm 0 5,
    .cancel, .time 5, .fire 0 (some 1) ] = false := by decide
/-- a timer task is leaked by a failed actor -/
example : (monC06 c06Ctx).ok [ .cbBegin .started, .ctxTimer 0 .intervalWith 5, .cbEnd .started true, .timerArm 0 5,
    .cancel, .quiescent [] ] = false := by decide
/-- `monC06t`: an operation hangs on a failed actor -/
example : (monC06t c06Ctx).ok [ .cbBegin .started, .cbEnd .started true, .begin 1 0 (.call 8), .cancel,
    .quiescent [1] ] = false := by decide

/-- **Witness: the clause "a send begun after the failure never returns Ok" is false of the model.**
    Between the failure event (`started` panicked) and the end of the loop task (`taskDone`, which drops
    the receiver) the mailbox still accepts submissions: a `send` begun in that window returns Ok (see
    `Props/C06Current.lean` for the run under `Wiring.current`).  The clause is in `monC06t`; it holds of guarded runs
    (`C06r_holds`). -/
def c06LateSend : List Label := [ .cbBegin .started, .cbPanic .started, .begin 1 0 (.send 5), .ret 1 .ok ]
example : (monC06t c06Ctx).ok c06LateSend = false := by decide
example : (monC06orig c06Ctx).ok c06LateSend = false := by decide
example : (monC06 c06Ctx).ok c06LateSend = true := by decide

end Hannibal
