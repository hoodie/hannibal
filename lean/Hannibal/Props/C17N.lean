import Hannibal.Props.C17
import Hannibal.Monitor.C02
import Hannibal.Proofs.RunGuard
/-
  C17 (the `None` clauses of `OwningAddr::join` / `consume`): for every wiring whose loop notifies after
  `stopped()`, every run of the actor model whose `begin` labels carry fresh operation ids and in which
  nothing is joined after a `consume` began (`consume` takes the owning address by value) is accepted by
  `monC17n`:
    * a join / consume returns `None` / `Err(AlreadyStopped)` only if it found the join slot already taken,
      or after the actor terminated and (it failed or the value was already handed out);
    * a join that found the slot taken never returns a value.
  Both hypotheses are needed (`c17n_consume_witness`, `c17n_reuse_witness` below).
-/
namespace Hannibal
open AState

/-- the monitor's table entry of a recorded operation -/
def jOk (r : OpRec) (k : Option OpKind) : Bool :=
  if isJoinKind r.kind then
    (match r.st with
     | .joining => k == some r.kind
     | .joinNone => k == some .ping  -- what the monitor records for a join that found the slot taken
     | .failed .send => true
     | _ => false)
  else k == none

structure C17nInv (c : MonCtx) (s : AState) (σ : C17nSt) (g : List Nat × Bool) : Prop where
  flags : ∃ sd, Flags04 c s σ.failure sd
  t : TermInv s
  term : σ.terminated = s.isDone
  l17 : Log17 s s.log σ.handedOut
  ops : ∀ r ∈ s.ops, jOk r (lookup r.o σ.ops) = true
  slot : g.2 = false → σ.slotTaken = s.joinTaken
  seen : ∀ o, (lookup o σ.ops).isSome = true → g.1.contains o = true

/-- the monitor's move on a label that neither begins nor completes an operation -/
def otherNext (c : MonCtx) (σ : C17nSt) (l : Label) : C17nSt :=
  let σ1 := if failsActor c.cfg.failOnTimeout l then { σ with failure := true } else σ
  if l.terminates then { σ1 with terminated := true } else σ1

theorem mon17n_other (c : MonCtx) (σ : C17nSt) {l : Label} (h1 : ∀ o h k, l ≠ .begin o h k)
    (h2 : ∀ o r, l ≠ .ret o r) : (monC17n c).step σ l = some (otherNext c σ l) := by
  cases l
  case begin o h k => exact absurd rfl (h1 o h k)
  case ret o r => exact absurd rfl (h2 o r)
  case cbAbandon cb => cases hf : c.cfg.failOnTimeout <;> simp only [monC17n, otherNext, failsActor, hf] <;> rfl
  all_goals rfl

theorem otherNext_ops (c σ l) : (otherNext c σ l).ops = σ.ops := by
  unfold otherNext; simp only; split <;> split <;> rfl
theorem otherNext_handedOut (c σ l) : (otherNext c σ l).handedOut = σ.handedOut := by
  unfold otherNext; simp only; split <;> split <;> rfl
theorem otherNext_slotTaken (c σ l) : (otherNext c σ l).slotTaken = σ.slotTaken := by
  unfold otherNext; simp only; split <;> split <;> rfl
theorem otherNext_failure (c σ l) :
    (otherNext c σ l).failure = (if failsActor c.cfg.failOnTimeout l then true else σ.failure) := by
  unfold otherNext; simp only; split <;> split <;> rfl
theorem otherNext_terminated (c σ l) :
    (otherNext c σ l).terminated = (if l.terminates then true else σ.terminated) := by
  unfold otherNext; simp only; split <;> split <;> rfl

theorem mon17n_ret (c : MonCtx) (σ : C17nSt) (o : Nat) {r : Res} (hr : ∀ f, r ≠ .some f)
    (h : (r = .none ∨ r = .err .alreadyStopped) → ∀ k, lookup o σ.ops = some k →
      (k == .ping || (σ.terminated && (σ.failure || σ.handedOut))) = true) :
    (monC17n c).step σ (.ret o r) = some σ := by
  simp only [monC17n]
  cases hl : lookup o σ.ops with
  | none => rfl
  | some k =>
    cases r
    case some f => exact absurd rfl (hr f)
    case none => simp only [h (.inl rfl) k hl]; rfl
    case err e => cases e <;> first | rfl | (simp only [h (.inr rfl) k hl]; rfl)
    all_goals rfl

theorem jOk_of_from {r r' : OpRec} {k : Option OpKind} (hk : r'.kind = r.kind)
    (hst : r.st ≠ .pending → r'.st = r.st) (h : jOk r k = true) : jOk r' k = true := by
  unfold jOk at h ⊢
  rw [hk]
  split
  · rename_i hj
    rw [if_pos hj] at h
    rw [hst (fun hp => by simp [hp] at h)]; exact h
  · rename_i hj; rw [if_neg hj] at h; exact h

theorem c17n_common (w : Wiring) (hw : w.notifyAfterStopped = true) (c : MonCtx) {s s' : AState}
    {σ : C17nSt} {g : List Nat × Bool} {l : Label} (hi : C17nInv c s σ g) (hs : step w s l = some s') :
    (∃ sd, Flags04 c s' (if failsActor c.cfg.failOnTimeout l then true else σ.failure) sd) ∧ TermInv s' ∧
      (if l.terminates then true else σ.terminated) = s'.isDone := by
  obtain ⟨sd, hfl⟩ := hi.flags
  -- of this `C04St` only `failure` and `stoppedDone` matter
  have hF := flags04_step w c
    (σ := { hold := HoldSt.init 0 .addr, failure := σ.failure, stoppedDone := sd, terminated := false }) hfl hs
  rw [next04_failure] at hF
  obtain ⟨hd1, hd2⟩ := step_isDone w hs
  refine ⟨⟨_, hF⟩, termInv_step w hw hs hi.t, ?_⟩
  cases ht : l.terminates
  · rw [hd2 ht]; exact hi.term
  · exact (hd1 ht).symm

theorem c17n_nonbegin (w : Wiring) (hw : w.notifyAfterStopped = true) (c : MonCtx) {s s' : AState}
    {σ σ' : C17nSt} {g : List Nat × Bool} {l : Label} (hi : C17nInv c s σ g) (hs : step w s l = some s')
    (hnb : ∀ o h k, l ≠ .begin o h k) (hops : σ'.ops = σ.ops) (hslot : σ'.slotTaken = σ.slotTaken)
    (hfail : σ'.failure = if failsActor c.cfg.failOnTimeout l then true else σ.failure)
    (hterm : σ'.terminated = if l.terminates then true else σ.terminated)
    (hL : Log17 s' s'.log σ'.handedOut) : C17nInv c s' σ' g := by
  obtain ⟨hF, hT, ht⟩ := c17n_common w hw c hi hs
  refine ⟨hfail ▸ hF, hT, hterm ▸ ht, hL, ?_, ?_, ?_⟩
  · intro r' hr'
    obtain ⟨r, hr, ho, hk, -, hst, -⟩ := (step_op_mem hs hr').resolve_left fun h => hnb _ _ _ h.1
    rw [hops, ho]
    exact jOk_of_from hk hst.resolve_right (hi.ops r hr)
  · rw [hslot, step_joinTaken hs hnb]; exact hi.slot
  · rw [hops]; exact hi.seen

theorem log17_step' (w : Wiring) {s s' : AState} {ho : Bool} {l : Label}
    (hi : Log17 s s.log ho) (hs : step w s l = some s') (hl : ∀ o r, l ≠ .ret o r) : Log17 s' s'.log ho := by
  have h := log17_step w hi hs hl
  rw [h.log] at h
  exact h

theorem c17n_other (w : Wiring) (hw : w.notifyAfterStopped = true) (c : MonCtx) {s s' : AState}
    {σ : C17nSt} {g : List Nat × Bool} {l : Label} (hi : C17nInv c s σ g) (hs : step w s l = some s')
    (hnb : ∀ o h k, l ≠ .begin o h k) (hnr : ∀ o r, l ≠ .ret o r) :
    ∃ σ', (monC17n c).step σ l = some σ' ∧ C17nInv c s' σ' g :=
  ⟨_, mon17n_other c σ hnb hnr, c17n_nonbegin w hw c hi hs hnb (otherNext_ops ..) (otherNext_slotTaken ..)
    (otherNext_failure ..) (otherNext_terminated ..) (by rw [otherNext_handedOut]; exact log17_step' w hi.l17 hs hnr)⟩

theorem c17n_ret (w : Wiring) (hw : w.notifyAfterStopped = true) (c : MonCtx) {s s' : AState}
    {σ : C17nSt} {g : List Nat × Bool} {o : Nat} {r : Res} (hi : C17nInv c s σ g)
    (hs : step w s (.ret o r) = some s') :
    ∃ σ', (monC17n c).step σ (.ret o r) = some σ' ∧ C17nInv c s' σ' g := by
  have next : ∀ σ' : C17nSt, σ'.ops = σ.ops → σ'.slotTaken = σ.slotTaken → σ'.failure = σ.failure →
      σ'.terminated = σ.terminated → Log17 s' s'.log σ'.handedOut → C17nInv c s' σ' g :=
    fun σ' h1 h2 h3 h4 hL => c17n_nonbegin w hw c hi hs nofun h1 h2 h3 h4 hL
  obtain ⟨rec, hfind, hexp, rfl⟩ := stepRet_cases hs
  obtain ⟨hrec, rfl⟩ := findOp_some_mem hfind
  have hj := hi.ops rec hrec
  obtain ⟨-, hfresh, hh⟩ := hi.l17
  have hfresh' : (s.retEffect rec).phase = .unstarted → (s.retEffect rec).log = [] := by
    rw [retEffect_phase, retEffect_log]; exact hfresh
  by_cases hst : rec.st = .joining
  · obtain ⟨hd, hk, hres⟩ := retExpect_joining hexp hst
    have hlk : lookup rec.o σ.ops = some rec.kind := by simpa [jOk, hk, hst] using hj
    have hnp : (rec.kind == .ping) = false := by cases hkk : rec.kind <;> first | rfl | simp [hkk, isJoinKind] at hk
    rcases hres with ⟨f, hres, rfl⟩ | ⟨hres, hr⟩
    · -- the value is there: it is handed out, and the result slot is empty from now on
      have hro := hi.t.result
      simp only [hres, resultOk, Bool.and_eq_true, beq_iff_eq] at hro
      have hp := hro.1.1.1
      refine ⟨{ σ with handedOut := true }, by simp only [monC17n, hlk, hnp]; rfl, next _ rfl rfl rfl rfl ?_⟩
      refine ⟨rfl, hfresh', ?_⟩
      rw [retEffect_phase, retEffect_result, hp, if_pos hst]; rfl
    · -- the value is gone: the actor failed, or the value was handed out before
      refine ⟨σ, mon17n_ret c σ _ hr fun _ k hk' => ?_, next σ rfl rfl rfl rfl ⟨rfl, hfresh', ?_⟩⟩
      · obtain ⟨sd, hfl⟩ := hi.flags
        rw [hi.term, hd, hfl.fail]
        unfold isDone at hd
        split at hd
        · rename_i gr hp
          cases gr
          · simp [hp, failing]
          · have : σ.handedOut = true := by simpa [handedOk, hp, hres] using hh
            simp [this]
        · cases hd
      · rw [retEffect_phase, retEffect_result, if_pos hst, ← hres]; exact hh
  · -- any other operation returns something else than the value and leaves the result slot alone
    have hr : ∀ f, r ≠ .some f := fun f hf => hst (retExpect_some (hf ▸ hexp)).1
    refine ⟨σ, mon17n_ret c σ _ hr fun hn k hk' => ?_, next σ rfl rfl rfl rfl ⟨rfl, hfresh', ?_⟩⟩
    · -- a `None` comes from a join that found the slot taken
      unfold jOk at hj
      rw [hk'] at hj
      split at hj
      · split at hj
        · exact absurd ‹_› hst
        · simp only [beq_iff_eq, Option.some.injEq] at hj; simp [hj]
        · rename_i hf
          simp only [retExpect, hf, Option.some.injEq] at hexp
          rcases hn with rfl | rfl <;> cases hexp
        · cases hj
      · cases hj
    · rw [retEffect_phase, retEffect_result, if_neg hst]; exact hh

theorem c17n_begin (w : Wiring) (hw : w.notifyAfterStopped = true) (c : MonCtx) {s s' : AState}
    {σ : C17nSt} {g g' : List Nat × Bool} {o h : Nat} {k : OpKind} (hi : C17nInv c s σ g)
    (hs : step w s (.begin o h k) = some s')
    (hg : ((monC02wf default).prod monC17nwf).step g (.begin o h k) = some g') :
    ∃ σ', (monC17n c).step σ (.begin o h k) = some σ' ∧ C17nInv c s' σ' g' := by
  obtain ⟨hF, hT, hterm⟩ := c17n_common w hw c hi hs
  have hF : ∃ sd, Flags04 c s' σ.failure sd := hF
  have hterm : σ.terminated = s'.isDone := hterm
  have hL := log17_step' w hi.l17 hs nofun
  obtain ⟨hg1, hg2⟩ := Mon.prod_step_some hg
  -- the id is fresh: the table has no entry for it, and the old records keep theirs
  simp only [monC02wf] at hg1
  split at hg1
  · cases hg1
  rename_i hseen
  obtain hg1 := Option.some.inj hg1
  have hlk : lookup o σ.ops = none := by
    cases hl : lookup o σ.ops with
    | none => rfl
    | some v => exact absurd (hi.seen o (by rw [hl]; rfl)) hseen
  have hseen' : ∀ σ' : C17nSt, (∀ o', (lookup o' σ'.ops).isSome = true → o' = o ∨ (lookup o' σ.ops).isSome = true) →
      ∀ o', (lookup o' σ'.ops).isSome = true → g'.1.contains o' = true := by
    intro σ' hσ' o' ho'
    rw [← hg1, List.contains_cons]
    rcases hσ' o' ho' with rfl | h
    · rw [beq_self_eq_true]; rfl
    · rw [hi.seen o' h, Bool.or_true]
  simp only [step] at hs
  obtain ⟨hfresh, st, hops, hout, hjs⟩ := stepBegin_ops hs
  have hne := findOp_none_ne hfresh
  cases hk : isJoinKind k
  · -- not a join: the monitor does not move, the slot is not asked for
    have hm : (monC17n c).step σ (.begin o h k) = some σ := by cases k <;> first | rfl | cases hk
    have hg2 : g'.2 = g.2 := by cases k <;> first | exact (Option.some.inj hg2).symm | cases hk
    have hjt : s'.joinTaken = s.joinTaken := by
      cases hout with
      | refused e hst => subst hst; exact hjs
      | wait _ _ hst => rcases hst with ⟨-, rfl⟩ | ⟨rfl, -⟩ <;> first | exact hjs | cases hk
      | sent _ _ _ _ _ hst => rcases hst with ⟨rfl, -⟩ | ⟨-, rfl⟩ <;> first | exact hjs | cases hk
    refine ⟨σ, hm, hF, hT, hterm, hL, ?_, ?_, hseen' σ fun _ h => .inr h⟩
    · intro r hr
      rw [hops] at hr
      rcases List.mem_append.mp hr with hr | hr
      · exact hi.ops r hr
      · obtain rfl := List.mem_singleton.mp hr
        simp [jOk, hk, hlk]
    · rw [hg2, hjt]; exact hi.slot
  · -- it finds the slot free and takes it, finds it taken, or (a `consume` whose `stop()` is refused) never
    -- gets as far as the slot
    have hcase : (st = .joining ∧ s.joinTaken = false ∧ s'.joinTaken = true) ∨
        (st = .joinNone ∧ s.joinTaken = true ∧ s'.joinTaken = true) ∨
        (st = .failed .send ∧ k = .consume ∧ s'.joinTaken = s.joinTaken) := by
      cases hout with
      | refused e hst _ hpl he =>
        subst hst
        rcases he with ⟨-, hk', -, hreq⟩ | ⟨rfl, -⟩
        · cases k <;> first | (cases hk; done) | cases hreq  -- neither upgrades its handle
        · exact .inr (.inr ⟨rfl, by cases k <;> first | rfl | (cases hk; done) | exact absurd rfl hpl, hjs⟩)
      | wait _ _ hst =>
        rcases hst with ⟨rfl, -⟩ | ⟨-, rfl | rfl⟩
        · cases hk
        · exact .inl ⟨rfl, hjs⟩
        · exact .inr (.inl ⟨rfl, hjs⟩)
      | sent _ _ hpl _ _ hst =>
        rcases hst with ⟨-, rfl | rfl⟩ | ⟨hne, -⟩
        · exact .inl ⟨rfl, hjs⟩
        · exact .inr (.inl ⟨rfl, hjs⟩)
        · cases k <;> first | (cases hk; done) | (cases hpl; done) | exact absurd rfl hne
    have hcons : g.2 = false ∧ (k = .consume → g'.2 = true) := by
      cases k <;> first | cases hk | skip
      all_goals
        simp only [monC17nwf] at hg2
        split at hg2
        · cases hg2
        · rename_i hc
          exact ⟨by simpa using hc, fun hkc => by first | exact (Option.some.inj hg2).symm | cases hkc⟩
    have hslot := hi.slot hcons.1
    have hm : (monC17n c).step σ (.begin o h k) =
        some { σ with ops := (o, (if σ.slotTaken then .ping else k)) :: σ.ops, slotTaken := true } := by
      cases k <;> first | rfl | cases hk
    refine ⟨_, hm, hF, hT, hterm, hL, ?_, ?_, hseen' _ fun o' ho' => ?_⟩
    · intro r hr
      rw [hops] at hr
      rcases List.mem_append.mp hr with hr | hr
      · show jOk r (lookup r.o ((o, _) :: σ.ops)) = true
        rw [lookup_cons_ne (hne r hr).symm]
        exact hi.ops r hr
      · obtain rfl := List.mem_singleton.mp hr
        show jOk _ (lookup o ((o, _) :: σ.ops)) = true
        rw [lookup_cons_eq]
        rcases hcase with ⟨rfl, hjt, -⟩ | ⟨rfl, hjt, -⟩ | ⟨rfl, -, -⟩
        · simp [jOk, hk, hslot, hjt]
        · simp [jOk, hk, hslot, hjt]
        · simp [jOk, hk]
    · intro hg'
      rcases hcase with ⟨-, -, hjt⟩ | ⟨-, -, hjt⟩ | ⟨-, hkc, -⟩
      · exact hjt.symm
      · exact hjt.symm
      · rw [hcons.2 hkc] at hg'; cases hg'
    · by_cases he : o = o'
      · exact .inl he.symm
      · exact .inr (by rwa [show lookup o' ((o, _) :: σ.ops) = lookup o' σ.ops from lookup_cons_ne he] at ho')

theorem c17n_step (w : Wiring) (hw : w.notifyAfterStopped = true) (c : MonCtx) {s s' : AState}
    {σ : C17nSt} {g g' : List Nat × Bool} {l : Label} (hi : C17nInv c s σ g) (hs : step w s l = some s')
    (hg : ((monC02wf default).prod monC17nwf).step g l = some g') :
    ∃ σ', (monC17n c).step σ l = some σ' ∧ C17nInv c s' σ' g' := by
  cases l
  case begin o h k => exact c17n_begin w hw c hi hs hg
  case ret o r => obtain rfl := Option.some.inj hg; exact c17n_ret w hw c hi hs
  all_goals obtain rfl := Option.some.inj hg; exact c17n_other w hw c hi hs nofun nofun

theorem c17n_init (c : MonCtx) :
    C17nInv c (AState.init c.cfg c.h0 c.k0) (monC17n c).init ((monC02wf default).prod monC17nwf).init :=
  ⟨⟨false, rfl, rfl, nofun⟩, termInv_init _ _ _, rfl, ⟨rfl, fun _ => rfl, rfl⟩, nofun, fun _ => rfl, nofun⟩

/-- **C17 (the `None` clauses).** In every run whose operations carry fresh ids and in which `consume` is
    the last use of the owning address, a join / consume returns `None` / `Err(AlreadyStopped)` only if it
    found the join slot taken or after the actor terminated and (failed or had its value handed out), and a
    join that found the slot taken never returns a value. -/
theorem C17n_holds (w : Wiring) (hw : w.notifyAfterStopped = true) (c : MonCtx) (ls : List Label) (s : AState)
    (hr : run w (AState.init c.cfg c.h0 c.k0) ls = some s) (hfresh : opIdsFresh ls = true)
    (hlast : consumeLast ls = true) : (monC17n c).ok ls = true := by
  refine ok_of_run_lift_wf (monC17n c) ((monC02wf default).prod monC17nwf) w (C17nInv c)
    (fun _ _ _ _ _ _ hi hs hg => c17n_step w hw c hi hs hg) _ (c17n_init c) ls s hr ?_
  rw [Mon.prod_ok]
  simp only [opIdsFresh, consumeLast] at hfresh hlast
  simp [hfresh, hlast]

def c17nCfg : Cfg := { cap := none, strat := .only, timeout := none, failOnTimeout := false, stream := false }
def c17nCtx : MonCtx := { cfg := c17nCfg, h0 := 0, k0 := .owning, prompt := true }

/-- two concurrent joins and a consume: the first join gets the value, the others `None` / `AlreadyStopped` -/
def c17nExample : List Label :=
  [ .cbBegin .started, .cbEnd .started true, .begin 0 0 (.send 5), .ret 0 .ok, .cbBegin (.handle 5),
    .cbEnd (.handle 5) true, .begin 1 0 .join, .begin 2 0 .join, .mk 0 1 .addr, .stopReq 1 true, .tDeq,
    .cbBegin .stopped, .cbEnd .stopped true, .ret 2 .none, .taskDone,
    .ret 1 (.some { birth := 0, stoppedSeen := true, digest := [5] }),
    .begin 3 0 .join, .ret 3 .none, .begin 4 0 .consume, .ret 4 (.err .send) ]
example : (monC17n c17nCtx).ok c17nExample = true := by decide
example : opIdsFresh c17nExample = true := by decide
example : consumeLast c17nExample = true := by decide

/-- a failed actor: the only join returns `None` after termination -/
def c17nExampleFail : List Label :=
  [ .cbBegin .started, .begin 1 0 .join, .cbPanic .started, .taskDone, .ret 1 .none ]
example : (monC17n c17nCtx).ok c17nExampleFail = true := by decide

/-- rejected: `None` from the first join while the actor still runs -/
example : (monC17n c17nCtx).ok
    [ .cbBegin .started, .cbEnd .started true, .begin 1 0 .join, .ret 1 .none ] = false := by decide
/-- rejected: `None` from the first join after a graceful termination whose value nobody took -/
example : (monC17n c17nCtx).ok
    [ .cbBegin .started, .cbEnd .started true, .mk 0 1 .addr, .stopReq 1 true, .tDeq, .cbBegin .stopped,
      .cbEnd .stopped true, .taskDone, .begin 1 0 .join, .ret 1 .none ] = false := by decide
/-- rejected: a value from a join that found the slot taken -/
example : (monC17n c17nCtx).ok (c17nExample.take 16 ++
    [ .begin 3 0 .join, .ret 3 (.some { birth := 0, stoppedSeen := true, digest := [5] }) ]) = false := by decide

/-- Why `consumeLast`: `consume` on a terminated actor fails at its `stop()` and never reaches the join
    slot, but the monitor counts it as a claim; the model (not Rust: `consume(self)`) lets a join begin
    afterwards, which then gets the value. -/
def c17n_consume_witness : List Label :=
  [ .cbBegin .started, .cbEnd .started true, .mk 0 1 .addr, .stopReq 1 true, .tDeq, .cbBegin .stopped,
    .cbEnd .stopped true, .taskDone, .begin 1 0 .consume, .begin 2 0 .join,
    .ret 2 (.some { birth := 0, stoppedSeen := true, digest := [] }) ]
example : (monC17n c17nCtx).ok c17n_consume_witness = false := by decide
example : opIdsFresh c17n_consume_witness = true := by decide
example : consumeLast c17n_consume_witness = false := by decide

/-- Why fresh ids: the id of a dropped join future is reused by a `try_call` whose upgrade fails. -/
def c17n_reuse_witness : List Label :=
  [ .cbBegin .started, .cbEnd .started true, .mk 0 1 .weakCaller, .begin 1 0 .join, .cdrop 1, .mk 0 2 .addr,
    .stopReq 2 true, .drop 2, .detach 0 3, .drop 3, .begin 1 1 (.tryCall 5), .ret 1 (.err .alreadyStopped) ]
example : (monC17n c17nCtx).ok c17n_reuse_witness = false := by decide
example : opIdsFresh c17n_reuse_witness = false := by decide
example : consumeLast c17n_reuse_witness = true := by decide

end Hannibal
