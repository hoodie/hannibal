import Hannibal.Props.C04
import Hannibal.Monitor.C17
import Hannibal.Proofs.C01Mon
/-
  C17 (the value: once, final state, only after graceful termination): for every wiring whose loop
  notifies after `stopped()`, every run of the actor model is accepted by `monC17`.
-/
namespace Hannibal
open AState

def handedOk (handedOut : Bool) (p : Phase) (r : Option Final) : Bool :=
  match p with
  | .done true => handedOut == r.isNone
  | _ => !handedOut

structure Log17 (s : AState) (hlog : List Nat) (handedOut : Bool) : Prop where
  log : hlog = s.log
  fresh : s.phase = .unstarted → s.log = []
  handed : handedOk handedOut s.phase s.result = true

theorem hlog01_other (hlog : List Nat) {l : Label} (hl : l.isLoop = false) : hlog01 hlog l = hlog := by
  cases l <;> first | rfl | cases hl

theorem handedOk_running {s : AState} (hd : s.isDone = false) (ho r) : handedOk ho s.phase r = !ho := by
  unfold isDone at hd; unfold handedOk; split <;> simp_all

theorem log17_step (w : Wiring) {s s' : AState} {hlog : List Nat} {ho : Bool} {l : Label}
    (hi : Log17 s hlog ho) (hs : step w s l = some s') (hl : ∀ o r, l ≠ .ret o r) :
    Log17 s' (hlog01 hlog l) ho := by
  obtain ⟨rfl, hfresh, hh⟩ := hi
  cases hlp : l.isLoop
  · rw [hlog01_other _ hlp]
    refine ⟨(step_log hs hlp).symm, ?_, ?_⟩
    · rw [step_phase hs hlp, step_log hs hlp]; exact hfresh
    · rw [step_phase hs hlp, step_result hs hlp hl]; exact hh
  · have h := step_loop hs hlp
    clear hs hlp hl
    cases h
    case panic cb hcb =>
      rw [handedOk_running (openCb_not_done hcb)] at hh
      exact ⟨rfl, by simp, by simpa [handedOk] using hh⟩
    case cancel hd =>
      rw [handedOk_running hd] at hh
      exact ⟨rfl, by simp, by simpa [handedOk] using hh⟩
    case born b hp => exact ⟨(hfresh hp).symm, fun _ => hfresh hp, by simpa [hp] using hh⟩
    all_goals refine ⟨rfl, ?_, ?_⟩ <;> simp_all [handedOk, fail, finish]

structure C17Inv (c : MonCtx) (s : AState) (σ : C17St) : Prop where
  base : C04Inv c s σ.base
  l : Log17 s σ.hlog σ.handedOut

theorem retExpect_joining {s : AState} {rec : OpRec} {r : Res} (h : s.retExpect rec = some r)
    (hj : rec.st = .joining) :
    s.isDone = true ∧ isJoinKind rec.kind = true ∧
      ((∃ f, s.result = some f ∧ r = .some f) ∨ (s.result = none ∧ ∀ f, r ≠ .some f)) := by
  cases retExpect_row h with
  | joined f _ hd hk hr => exact ⟨hd, by rcases hk with hk | hk <;> rw [hk] <;> rfl, .inl ⟨f, hr, rfl⟩⟩
  | joinedNone _ hd hk hr | consumedNone _ hd hk hr => exact ⟨hd, by rw [hk]; rfl, .inr ⟨hr, nofun⟩⟩
  | failed _ hst | sent hst | fired hst | dropped hst | answered _ hst | pinged hst | cancelled hst | joinNone hst
  | consumeNone hst => rw [hj] at hst; cases hst

theorem c17_step (w : Wiring) (hw : w.notifyAfterStopped = true) (c : MonCtx) {s s' : AState} {σ : C17St}
    {l : Label} (hi : C17Inv c s σ) (hs : step w s l = some s') :
    ∃ σ', (monC17 c).step σ l = some σ' ∧ C17Inv c s' σ' := by
  obtain ⟨σb, hb, hbase'⟩ := c04_step w hw c hi.base hs
  obtain rfl : σb = next04 c σ.base l := by
    simp only [monC04] at hb; split at hb <;> simp at hb; exact hb.symm
  suffices h : bad17 σ l = false ∧ Log17 s' (next17 c σ l).hlog (next17 c σ l).handedOut from
    ⟨next17 c σ l, by show (if bad17 σ l then none else _) = _; rw [h.1]; rfl, hbase', h.2⟩
  cases l
  case ret o r =>
    obtain ⟨rec, hfind, hexp, rfl⟩ := stepRet_cases hs
    obtain ⟨hrec, rfl⟩ := findOp_some_mem hfind
    have hjoin : joinOf σ rec.o = isJoinKind rec.kind := by
      simp only [joinOf, hi.base.h.ops rec hrec]
    obtain ⟨hlog, hfresh, hh⟩ := hi.l
    have keep : (∀ f, r ≠ .some f) → Log17 (s.retEffect rec) σ.hlog σ.handedOut := by
      intro hr
      refine ⟨by rw [retEffect_log]; exact hlog, by rw [retEffect_phase, retEffect_log]; exact hfresh, ?_⟩
      rw [retEffect_phase, retEffect_result]
      split
      · rename_i hj
        obtain ⟨-, -, ⟨f, -, rfl⟩ | ⟨hres, -⟩⟩ := retExpect_joining hexp hj
        · exact absurd rfl (hr f)
        · rw [← hres]; exact hh
      · exact hh
    cases r
    case some f =>
      -- the join slot's holder takes the result of a gracefully finished actor, for the first time
      have hj := (retExpect_some hexp).1
      obtain ⟨hd, hk, ⟨f', hres, hf⟩ | ⟨-, hne⟩⟩ := retExpect_joining hexp hj
      · obtain rfl := Res.some.inj hf
        have hro := hi.base.t.result
        simp only [hres, resultOk, Bool.and_eq_true, beq_iff_eq] at hro
        obtain ⟨⟨⟨hp, -⟩, hseen⟩, hdig⟩ := hro
        have hho : σ.handedOut = false := by simpa [handedOk, hp, hres] using hh
        have hsd : σ.base.stoppedDone = true := hi.base.f.stopd (by rw [hp]; rfl)
        have hfl : σ.base.failure = false := by rw [hi.base.f.fail, hp]; rfl
        have hterm : σ.base.terminated = true := by rw [hi.base.term]; exact hd
        refine ⟨by simp [bad17, hterm, hsd, hfl, hho, hseen, hdig, hlog], ?_⟩
        refine ⟨by rw [retEffect_log]; exact hlog, by rw [retEffect_phase, hp]; exact (nomatch ·), ?_⟩
        rw [retEffect_phase, retEffect_result, hp, if_pos hj]
        simp [next17, hjoin, hk, handedOk]
      · exact absurd rfl (hne f)
    all_goals exact ⟨rfl, keep (fun _ h => Res.noConfusion h)⟩
  all_goals exact ⟨rfl, log17_step w hi.l hs (fun _ _ h => Label.noConfusion h)⟩

theorem c17_init (c : MonCtx) : C17Inv c (AState.init c.cfg c.h0 c.k0) (monC17 c).init := by
  refine ⟨c04_init c, ⟨?_, ?_, ?_⟩⟩ <;> simp [monC17, AState.init, handedOk]

/-- **C17 (the value).** In every run — submissions through the owning address and derived handles mixed
    with join / consume / detach at any position, repeated and concurrent joins, every termination cause —
    a join or consume yields the actor value only after graceful termination, in its final state (digest =
    fold of everything handled, `stopped` seen), and at most once. -/
theorem C17_holds (w : Wiring) (hw : w.notifyAfterStopped = true) (c : MonCtx) (ls : List Label) (s : AState)
    (hr : run w (AState.init c.cfg c.h0 c.k0) ls = some s) : (monC17 c).ok ls = true :=
  ok_of_run_lift (monC17 c) w (C17Inv c) (fun _ _ _ _ hi hs => c17_step w hw c hi hs) _ (c17_init c) ls s hr

/-- Non-vacuity: two joins, the first gets the value, the second `None`; handing out twice is flagged. -/
def c17Example : List Label :=
  [ .cbBegin .started, .cbEnd .started true, .begin 0 0 (.send 5), .ret 0 .ok, .cbBegin (.handle 5),
    .cbEnd (.handle 5) true, .mk 0 1 .addr, .stopReq 1 true, .tDeq, .cbBegin .stopped, .cbEnd .stopped true,
    .taskDone, .begin 1 0 .join, .ret 1 (.some { birth := 0, stoppedSeen := true, digest := [5] }),
    .begin 2 0 .join, .ret 2 .none ]
def c17Cfg : Cfg := { cap := none, strat := .only, timeout := none, failOnTimeout := false, stream := false }
def c17Ctx : MonCtx := { cfg := c17Cfg, h0 := 0, k0 := .owning, prompt := true }
example : (monC17 c17Ctx).ok c17Example = true := by decide
example : (monC17 c17Ctx).ok (c17Example.take 14 ++
    [ .begin 2 0 .join, .ret 2 (.some { birth := 0, stoppedSeen := true, digest := [5] }) ]) = false := by decide

end Hannibal
