import Hannibal.Proofs.Timers
import Hannibal.Proofs.Rel2
import Hannibal.Proofs.Run
import Hannibal.Monitor.C10
/-
  C10 (period / delay / once / silence after termination): every run of the actor model is accepted by
  `monC10`.  No wiring hypothesis.
-/
namespace Hannibal
open AState

/-- the monitor's record of a timer agrees with the model's timer -/
def tOk (clk : Nat) (x : Timer) (τ : T10) : Bool :=
  τ.id == x.id && τ.kind == x.kind && τ.d == x.d &&
  (match x.st with
   | .spawned => τ.lastDue == none && τ.fires == 0
   | .sleeping due => τ.lastDue == some due && !(delayedKind x.kind && decide (τ.fires ≥ 1))
   | .sending => (match τ.lastDue with | some p => decide (p ≤ clk) | none => false) && decide (τ.fires ≥ 1)
   | _ => true)

structure C10Inv (s : AState) (σ : C10St) : Prop where
  clock : σ.clock = s.clock
  term : σ.terminated = s.isDone
  dead : s.isDone = true → AllDead s
  nodup : s.timerIds.Nodup
  tim : Rel2 (fun x τ => tOk s.clock x τ = true) s.timers σ.timers

theorem tOk_id {clk x τ} (h : tOk clk x τ = true) : τ.id = x.id := by
  unfold tOk at h; simp at h; exact h.1.1.1

theorem c10_find {s : AState} {σ : C10St} (hi : C10Inv s σ) (t : Nat) :
    (∀ x, s.findTimer t = some x → ∃ τ, σ.find t = some τ ∧ tOk s.clock x τ = true) ∧
    (s.findTimer t = none → σ.find t = none) := by
  unfold findTimer C10St.find
  exact hi.tim.find (fun x => x.id == t) (fun x => x.id == t) (fun a b h => by rw [tOk_id h])

theorem rel_set {clk : Nat} {l : List Timer} {l' : List T10} (h : Rel2 (fun x τ => tOk clk x τ = true) l l')
    (hn : (l.map (fun x => x.id)).Nodup) (t : Nat) (x0 : Timer) (hx0 : l.find? (fun z => z.id == t) = some x0)
    (st : TimerSt) (f : T10 → T10)
    (hf : ∀ τ, tOk clk x0 τ = true → tOk clk { x0 with st := st } (f τ) = true) :
    Rel2 (fun x τ => tOk clk x τ = true)
      (l.map (fun x => if x.id == t then { x with st := st } else x))
      (l'.map (fun x => if x.id == t then f x else x)) := by
  refine h.map_mem _ _ ?_
  intro x τ hmem hx
  have hid := tOk_id hx
  by_cases he : x.id = t
  · have hxx : x = x0 := eq_of_find_nodup l hn hx0 hmem he
    subst hxx
    subst he
    simp only [hid, beq_self_eq_true, if_true]
    exact hf τ hx
  · simp [he, hid, hx]

theorem rel_kill {clk : Nat} {l : List Timer} {l' : List T10} (h : Rel2 (fun x τ => tOk clk x τ = true) l l')
    (k : Timer → Timer) (hk : ∀ x τ, tOk clk x τ = true → tOk clk (k x) τ = true) :
    Rel2 (fun x τ => tOk clk x τ = true) (l.map k) l' := by
  have := h.map (r' := fun x τ => tOk clk x τ = true) k id (fun a b hab => hk a b hab)
  simpa using this

theorem tOk_kill {clk x τ} (h : tOk clk x τ = true) :
    tOk clk (if x.st = .ended then x else if x.st = .sending ∨ x.st = .deadHolding then { x with st := .deadHolding }
      else { x with st := .dead }) τ = true := by
  unfold tOk at *
  split
  · exact h
  · split <;> simp_all

theorem tOk_clock {clk clk' x τ} (h : tOk clk x τ = true) (hle : clk ≤ clk') : tOk clk' x τ = true := by
  unfold tOk at *
  cases hst : x.st <;> simp_all
  cases hl : τ.lastDue <;> simp_all
  omega

theorem next10_terminated (σ : C10St) (l : Label) :
    (next10 σ l).terminated = (l.terminates || σ.terminated) := by
  cases l <;> rfl

theorem next10_clock (σ : C10St) (l : Label) (hl : ∀ t, l ≠ .time t) : (next10 σ l).clock = σ.clock := by
  cases l <;> first | rfl | exact absurd rfl (hl _)

theorem next10_timers_same (σ : C10St) (l : Label) (hl : l.isTimer = false) :
    (next10 σ l).timers = σ.timers := by
  cases l <;> first | rfl | cases hl

theorem c10_step (w : Wiring) {s s' : AState} {σ : C10St} {l : Label}
    (hi : C10Inv s σ) (hs : step w s l = some s') : bad10 σ l = false ∧ C10Inv s' (next10 σ l) := by
  obtain ⟨hd1, hd2⟩ := step_isDone w hs
  have hterm : (next10 σ l).terminated = s'.isDone := by
    rw [next10_terminated, hi.term]
    cases ht : l.terminates
    · rw [hd2 ht]; rfl
    · rw [hd1 ht]; rfl
  have hdead := allDead_done_step w hi.dead hs
  -- a timer that moves is not dead, hence the actor has not terminated
  have hlive : ∀ t x, s.findTimer t = some x → ¬ x.Dead → s.isDone = false := by
    intro t x hx hnd
    cases hdn : s.isDone
    · rfl
    · exact absurd (hi.dead hdn x (findTimer_mem hx).1) hnd
  by_cases htime : ∃ t, l = .time t
  · obtain ⟨t, rfl⟩ := htime
    obtain ⟨hle, -, rfl⟩ := stepTime_cases hs
    exact ⟨rfl, ⟨rfl, hterm, hdead, hi.nodup, hi.tim.mono (fun x τ h => tOk_clock h hle)⟩⟩
  have hnt : ∀ t, l ≠ .time t := fun t h => htime ⟨t, h⟩
  have hclk := step_clock hs hnt
  have hσclk : (next10 σ l).clock = s'.clock := by rw [next10_clock σ l hnt, hclk]; exact hi.clock
  have other : (next10 σ l).timers = σ.timers → bad10 σ l = false →
      s'.timers = s.timers ∨ s'.timers = s.killTimers.timers → bad10 σ l = false ∧ C10Inv s' (next10 σ l) := by
    intro hσ hbad h
    have hids : s'.timerIds = s.timerIds := by
      rcases h with h | h
      · exact timerIds_of_eq h
      · rw [timerIds_of_eq h, killTimers_ids]
    refine ⟨hbad, ⟨hσclk, hterm, hdead, hids ▸ hi.nodup, ?_⟩⟩
    rw [hσ, hclk]
    rcases h with h | h <;> rw [h]
    · exact hi.tim
    · exact rel_kill hi.tim _ (fun x τ h => tOk_kill h)
  by_cases htm : l.isTimer = true
  · cases l <;> first | (cases htm; done) | skip
    case ctxTimer t k d =>
      obtain ⟨-, hfresh, rfl⟩ := stepCtxTimer_cases hs
      refine ⟨rfl, ⟨hσclk, hterm, hdead, ?_, hi.tim.append_single (by simp [tOk])⟩⟩
      unfold AState.timerIds
      simp only [List.map_append, List.map_cons, List.map_nil]
      refine List.nodup_append.mpr ⟨hi.nodup, by simp, ?_⟩
      simpa using hfresh
    case timerArm t due =>
      obtain ⟨x, hx, hdue, hcase⟩ := stepTimerArm_cases hs
      obtain ⟨τ, hτ, hok⟩ := (c10_find hi t).1 x hx
      have hst : x.st = .spawned ∨ (∃ old, x.st = .sleeping old ∧ old ≤ s.clock ∧ x.kind = .interval) ∨
          (x.st = .sending ∧ x.kind = .intervalWith) := by
        rcases hcase with ⟨h, -⟩ | ⟨old, h, hk, ho, -⟩ | ⟨h, hk, -⟩
        · exact .inl h
        · exact .inr (.inl ⟨old, h, ho, hk⟩)
        · exact .inr (.inr ⟨h, hk⟩)
      have htim : s'.timers = (s.setTimer t (.sleeping due)).timers := by
        rcases hcase with ⟨-, rfl⟩ | ⟨old, -, -, -, -, -, rfl⟩ | ⟨-, -, -, rfl⟩ <;> rfl
      clear hcase hs
      have hnd := hlive t x hx (by unfold Timer.Dead; rcases hst with h | ⟨o, h, _⟩ | ⟨h, _⟩ <;> simp [h])
      have hbad : bad10 σ (.timerArm t due) = false := by
        simp only [bad10, hτ, hi.term, hnd, hi.clock]
        unfold tOk at hok
        rcases hst with h | ⟨o, h, ho, _⟩ | ⟨h, _⟩ <;> simp [h] at hok <;> simp_all
        · cases hl : τ.lastDue <;> simp_all <;> try omega
      refine ⟨hbad, ⟨hσclk, hterm, hdead, by rw [timerIds_of_eq htim, setTimer_ids]; exact hi.nodup, ?_⟩⟩
      rw [htim, hclk]
      refine rel_set hi.tim hi.nodup t x hx _ _ ?_
      intro υ hυ
      unfold tOk at hυ ⊢
      rcases hst with h | ⟨o, h, ho, hk⟩ | ⟨h, hk⟩ <;> simp [h] at hυ <;> simp_all [delayedKind]
    case timerEnd t =>
      obtain ⟨x, -, rfl, -⟩ := stepTimerEnd_cases hs
      refine ⟨rfl, ⟨hσclk, hterm, hdead, by rw [setTimer_ids]; exact hi.nodup, ?_⟩⟩
      exact rel_kill hi.tim _ (fun x τ h => by unfold tOk at *; split <;> simp_all)
    case fire t m =>
      obtain ⟨x, due, hx, hst, hdue, hcase⟩ := stepFire_cases hs
      obtain ⟨τ, hτ, hok⟩ := (c10_find hi t).1 x hx
      have htim : (s'.timers = (s.setTimer t .sending).timers ∧ (x.kind = .intervalWith ∨ x.kind = .delayedSend)) ∨
          s'.timers = (s.setTimer t .dead).timers := by
        rcases hcase with ⟨-, -, rfl⟩ | ⟨n, hk, -, ⟨-, -, rfl⟩ | ⟨-, rfl⟩⟩
        · exact .inr rfl
        · exact .inl ⟨rfl, hk⟩
        · exact .inr rfl
      clear hcase hs
      have hnd := hlive t x hx (by unfold Timer.Dead; simp [hst])
      have hbad : bad10 σ (.fire t m) = false := by
        simp only [bad10, hτ, hi.term, hnd, hi.clock]
        unfold tOk at hok
        simp [hst] at hok
        obtain ⟨⟨⟨_, hk⟩, _⟩, hl, hf⟩ := hok
        simp only [hl, hk]
        rcases hf with hf | hf <;> simp [hf] <;> omega
      have hids : s'.timerIds = s.timerIds := by
        rcases htim with ⟨h, -⟩ | h <;> rw [timerIds_of_eq h, setTimer_ids]
      refine ⟨hbad, ⟨hσclk, hterm, hdead, hids ▸ hi.nodup, ?_⟩⟩
      rw [hclk]
      rcases htim with ⟨htim, hk⟩ | htim <;> rw [htim] <;> refine rel_set hi.tim hi.nodup t x hx _ _ ?_ <;>
        intro υ hυ <;> unfold tOk at hυ ⊢ <;> simp [hst] at hυ ⊢
      · obtain ⟨h1, hl, _⟩ := hυ
        simp [h1, hl, hdue]
      · exact hυ.1
  · have htm' : l.isTimer = false := by simpa using htm
    refine other (next10_timers_same σ l htm') ?_ (step_timers_kill hs htm')
    cases l <;> first | rfl | skip
    case cbBegin cb => exact hi.term.trans (not_done_of_begin hs (.inl ⟨cb, rfl⟩))
    case tickBegin t m => exact hi.term.trans (not_done_of_begin hs (.inr ⟨t, m, rfl⟩))
    all_goals cases htm'

theorem c10_init (c : MonCtx) : C10Inv (AState.init c.cfg c.h0 c.k0) (monC10 c).init := by
  refine ⟨rfl, ?_, ?_, ?_, ?_⟩
  · simp [monC10, AState.init, isDone]
  · intro _ x hx; simp [AState.init] at hx
  · simp [AState.init, timerIds]
  · simp [monC10, AState.init]; exact .nil

/-- **C10 (timers keep their period, die with the actor).** For every timer kind, duration, clock
    history and interleaving with messages, restarts and termination: each sleep of a timer lasts a full
    period / delay measured from when it is armed and starts only after the previous one was over, so two
    deliveries of one interval are never closer than its period; no timer's closure runs before its delay
    has elapsed; `delayed_send` / `delayed_exec` act at most once; after the actor has terminated no timer
    fires or re-arms and no callback of the actor begins. -/
theorem C10_holds (w : Wiring) (c : MonCtx) (ls : List Label) (s : AState)
    (hr : run w (AState.init c.cfg c.h0 c.k0) ls = some s) : (monC10 c).ok ls = true :=
  ok_of_run_lift (monC10 c) w C10Inv
    (fun s s' σ l hi hs => by
      obtain ⟨hb, hi'⟩ := c10_step w hi hs
      exact ⟨next10 σ l, by simp [monC10, hb], hi'⟩)
    _ (c10_init c) ls s hr

def c10Cfg : Cfg := { cap := none, strat := .only, timeout := none, failOnTimeout := false, stream := false }
def c10Ctx : MonCtx := { cfg := c10Cfg, h0 := 0, k0 := .addr, prompt := true }
/- Non-vacuity: an interval of period 5 fires at 5 and 10 and dies with the actor; an early fire, a
    short re-arm and a fire after termination are all flagged. -/
def c10Example : List Label :=
  [ .cbBegin .started, .ctxTimer 0 .intervalWith 5, .cbEnd .started true, .timerArm 0 5, .time 5, .fire 0 (some 1),
    .timerArm 0 10, .cbBegin (.handle 1), .cbEnd (.handle 1) true, .time 10, .fire 0 (some 1), .timerArm 0 15 ]
example : (monC10 c10Ctx).ok c10Example = true := by decide
example : (monC10 c10Ctx).ok [ .cbBegin .started, .ctxTimer 0 .intervalWith 5, .cbEnd .started true,
    .timerArm 0 5, .time 4, .fire 0 (some 1) ] = false := by decide
example : (monC10 c10Ctx).ok [ .cbBegin .started, .ctxTimer 0 .intervalWith 5, .cbEnd .started true,
    .timerArm 0 4 ] = false := by decide
example : (monC10 c10Ctx).ok [ .cbBegin .started, .ctxTimer 0 .delayedExec 5, .cbEnd .started true,
    .timerArm 0 5, .time 5, .fire 0 none, .fire 0 none ] = false := by decide

end Hannibal
