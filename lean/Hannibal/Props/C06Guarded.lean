import Hannibal.Props.C06Quiet
import Hannibal.Proofs.Guarded
namespace Hannibal
open AState

/-- the return clause of `monC06t` on its own -/
def bad06r (st : C06St) : Label → Bool
  | .ret o r =>
    st.failed &&
      (match lookup o st.ops with
       | none => false
       | some (k, late) => retBad06t k late r)
  | _ => false

def monC06r (c : MonCtx) : Mon C06St where
  init := { failed := false, ops := [], finishedOk := [], timers := [], terminated := false }
  step st l := if bad06r st l then none else some (next06 c st l)

theorem bad06t_split (st : C06St) (l : Label) : bad06t st l = (bad06r st l || bad06q st l) := by
  cases l
  case ret => exact (Bool.or_false _).symm
  all_goals rfl

theorem monC06t_split (c : MonCtx) (ls : List Label) :
    (monC06t c).ok ls = ((monC06r c).ok ls && (monC06q c).ok ls) :=
  Mon.run_split (next06 c) bad06r bad06q
    (fun st l => by show (if bad06t st l = true then _ else _) = _; rw [bad06t_split])
    (fun _ _ => rfl) (fun _ _ => rfl) ls _

/-- coupling of `monC06r`'s state with `monC06s`'s along a guarded run: on guarded runs an operation begun
    after the failure is begun after the end of the task -/
structure RInv (c : MonCtx) (s : AState) (σ : C06St) (σs : C06sSt) : Prop where
  inv : C06sInv c s σs
  ops : σ.ops = σs.ops
  failed : σ.failed = σs.failed
  term : σ.terminated = σs.terminated

theorem r_step (w : Wiring) (c : MonCtx) {s s' : AState} {σ : C06St} {σs : C06sSt} {l : Label}
    (hi : RInv c s σ σs) (hs : gstep w s l = some s') :
    bad06r σ l = false ∧ RInv c s' (next06 c σ l) (next06s c σs l) := by
  obtain ⟨hbs, hinv'⟩ := c06s_step w c hi.inv (gstep_step hs)
  refine ⟨?_, hinv', ?_, ?_, ?_⟩
  · -- `late` means the same in both tables
    cases l
    case ret o r =>
      show (σ.failed && match lookup o σ.ops with | none => false | some (k, late) => retBad06t k late r) = false
      rw [hi.ops]
      cases hl : lookup o σs.ops with
      | none => exact Bool.and_false _
      | some p =>
        obtain ⟨k, late⟩ := p
        have hbs : (match lookup o σs.ops with | some (k, true) => k.isSend && r == .ok | _ => false) = false := hbs
        rw [hl] at hbs
        cases late
        · exact Bool.and_false _
        · exact (congrArg (σ.failed && ·) (hbs : (k.isSend && r == .ok) = false)).trans (Bool.and_false _)
    all_goals rfl
  · -- the tables stay equal: at a guarded `begin` after the failure the task is gone
    rw [next06_ops, next06s_ops]
    cases l
    case begin o h k =>
      have hfl : σs.failed = failing s.phase := hi.inv.f.fail
      have htm : σs.terminated = s.isDone := hi.inv.f.term
      have hal := gstep_allows hs
      show (o, (k, σ.failed)) :: σ.ops = (o, (k, σs.failed && σs.terminated)) :: σs.ops
      rw [hi.ops, hi.failed]
      cases hf : σs.failed
      · rfl
      · -- failed: the loop is returning or gone, and a guarded step begins nothing while it is returning
        have hd : s.isDone = true := by
          rw [hf] at hfl
          unfold isDone
          cases hph : s.phase <;> rw [hph] at hfl hal <;> first | rfl | (cases hfl; done) | skip
          rename_i g; cases g <;> first | (cases hfl; done) | cases hal
        rw [htm, hd]; rfl
    all_goals exact hi.ops
  · rw [next06_failed, next06s_failed, hi.failed]
  · rw [next06_terminated, next06s_terminated, hi.term]

/-- on guarded runs a send begun after the failure never returns Ok -/
theorem C06r_holds (w : Wiring) (c : MonCtx) (ls : List Label) (s : AState)
    (hr : grun w (AState.init c.cfg c.h0 c.k0) ls = some s) : (monC06r c).ok ls = true := by
  obtain ⟨_, hm, -⟩ := (grun_folds w).sim (monC06r c).run_folds (fun s σ => ∃ σs, RInv c s σ σs)
    (fun _ _ σ l ⟨σs, hi⟩ hs => by
      obtain ⟨hb, hi'⟩ := r_step w c hi hs
      exact ⟨next06 c σ l, by simp only [monC06r, hb]; rfl, _, hi'⟩)
    ls _ s (monC06r c).init ⟨(monC06s c).init, c06s_init c, rfl, rfl, rfl⟩ hr
  exact Option.isSome_iff_exists.mpr ⟨_, hm⟩

/-- C06 for guarded runs (the runs the acceptor accepts): between the failure of the loop and the end of its
task nothing else happens to the actor, so "a send begun after the failure never returns Ok" - false of
unguarded runs (`c06LateSend`) - is a theorem, and with it the single-actor part of C06 as first written
(`monC06orig`). -/
theorem C06g_holds (w : Wiring) (hw : w.notifyAfterStopped = true) (c : MonCtx) (ls : List Label) (s : AState)
    (hr : grun w (AState.init c.cfg c.h0 c.k0) ls = some s) (huniq : uniqueBegins ls = true) :
    (monC06orig c).ok ls = true := by
  have hrun := grun_run ls _ s hr
  rw [monC06_split, monC06t_split, C06_holds w hw c ls s hrun, C06r_holds w c ls s hr,
    C06q_holds w hw c ls s hrun huniq]
  rfl

end Hannibal
