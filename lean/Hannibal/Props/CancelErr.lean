import Hannibal.Props.C02
import Hannibal.Proofs.CancelErr
/-
  CancelErr (a call or ping is never cancelled without a reason): for every wiring, every run of the actor
  model whose `begin` labels carry pairwise distinct operation ids is accepted by `monCancelErr`:
  a call / ping returns `Err(Canceled)` only after a terminating label (`taskDone`, `taskPanic`, `cancel`)
  or - for a call with message m - after `cbAbandon (handle m)` / `cbPanic (handle m)`.

  The proof runs the C02 monitor state alongside (its coupling `opOk` / `plOk` / `phaseOk` links the
  invocation in progress and the queued entries to the op records of their slots) and adds one
  per-record predicate, `cancOk`.
-/
namespace Hannibal
open AState

structure CEInv (s : AState) (σ2 : C02St) (σ : CancelSt) : Prop extends Core02 s σ2 where
  link : ∀ o k late, lookup o σ2.ops = some (k, late) → lookup o σ.ops = some k
  canc : ∀ r ∈ s.ops, cancOk σ r = true

theorem ret_accept_ce {s : AState} {σ2 : C02St} {σ : CancelSt} {rec : OpRec} {res : Res}
    (hexp : s.retExpect rec = some res) (hop : opOk σ2 rec = true)
    (hlink : ∀ o k late, lookup o σ2.ops = some (k, late) → lookup o σ.ops = some k)
    (hc : cancOk σ rec = true) : badCancelErr σ (.ret rec.o res) = false := by
  obtain ⟨late, h1, -⟩ := opOk_parts hop
  have hl := hlink _ _ _ h1
  cases retExpect_row hexp with
  | failed e h => cases e <;> first | rfl | simp [cancOk, h] at hc
  | dropped _ hk =>
    -- only `halt` and `await` wait for the latch
    simp only [badCancelErr, hl]
    cases hkk : rec.kind <;> simp_all [isLatchOp, OpKind.isCall]
  | cancelled h =>
    simp only [cancOk, h, Bool.or_eq_true] at hc
    simp only [badCancelErr, hl]
    rcases hc with hc | hc
    · simp [hc]
    · cases hm : rec.kind.msg? <;> simp_all
  | _ => rfl

theorem canc_step (w : Wiring) {s s' : AState} {σ2 : C02St} {σ : CancelSt} {l : Label}
    (hi : CEInv s σ2 σ) (hs : step w s l = some s') :
    ∀ r' ∈ s'.ops, cancOk (nextCancelErr σ l) r' = true := by
  by_cases hedge : l.isOpEdge = true
  · intro r' hr'
    rcases edge_ops hs hedge r' hr' with ⟨hr, -⟩ | ⟨o, h, k, st, -, hout, rfl, -⟩
    · exact cancOk_next (hi.canc r' hr)
    · rcases hout.st_cases with rfl | rfl | rfl | rfl | ⟨rfl, -⟩ <;> rfl
  · have upd : ∀ {p st}, s'.ops = s.ops.map (resolve p st) →
        (∀ r ∈ s.ops, p r = true → cancOk (nextCancelErr σ l) { r with st } = true) →
        ∀ r' ∈ s'.ops, cancOk (nextCancelErr σ l) r' = true := by
      intro p st h hk r' hr'
      rw [h] at hr'
      obtain ⟨r, hr, rfl⟩ := List.mem_map.mp hr'
      rcases resolve_cases p st r with he | ⟨hp, -, he⟩ <;> rw [he]
      · exact cancOk_next (hi.canc r hr)
      · exact hk r hr hp
    cases step_opsChange hs (by simpa using hedge) with
    | same h => intro r' hr'; rw [h] at hr'; exact cancOk_next (hi.canc r' hr')
    | answer _ _ _ _ _ h | ping _ _ _ _ h => exact upd h (fun _ _ _ => rfl)
    | gone ht h =>
      exact upd h (fun _ _ _ => by simp [cancOk, nextCancelErr_term_of σ ht])
    | broken cb hl ho h =>
      -- the reply slot of the invocation for message m, at `cbAbandon` / `cbPanic` of `handle m`
      refine upd h (fun r hr hc => ?_)
      unfold curSlot at hc
      split at hc <;> simp at hc
      rename_i cb' o dl hph
      obtain ⟨m, rfl, hpl⟩ := phaseOk_handling (hph ▸ hi.phase)
      obtain rfl : cb = .handle m := by simpa [openCb, hph] using ho.symm
      obtain ⟨late, h1, -⟩ := opOk_parts (hi.ops r hr)
      obtain ⟨k, _, hlk, hpl⟩ := plOk_msg.mp hpl
      rw [← hc, h1] at hlk
      cases hlk
      have hb : (nextCancelErr σ l).broken.contains m = true := by
        rcases hl with rfl | rfl <;> simp [nextCancelErr]
      simp only [cancOk, hpl.2, hpl.1, hb, Bool.and_self, Bool.or_true]

theorem ce_step (w : Wiring) {s s' : AState} {σ2 : C02St} {σ : CancelSt} {l : Label}
    (hi : CEInv s σ2 σ) (hf : freshFor σ2 l) (hs : step w s l = some s') :
    badCancelErr σ l = false ∧ CEInv s' (next02 σ2 l) (nextCancelErr σ l) := by
  refine ⟨?_, core02_step hi.toCore02 hf hs, ?_, canc_step w hi hs⟩
  · cases l <;> first | rfl | skip
    rename_i o res
    obtain ⟨rec, hfind, hexp, -, rfl⟩ := stepRet_ops hs
    have hm := (findOp_some_mem hfind).1
    exact ret_accept_ce hexp (hi.ops rec hm) hi.link (hi.canc rec hm)
  · intro o k late hl
    rw [next02_ops] at hl
    rw [nextCancelErr_ops]
    cases l <;> first | exact hi.link o k late hl | skip
    rename_i o' h' k'
    simp only [lookup] at hl ⊢
    split at hl <;> rename_i he
    · cases hl; rw [if_pos he]
    · rw [if_neg he]; exact hi.link o k late hl

/-- **CancelErr.** For every wiring, every run of the actor model whose `begin` labels carry pairwise
    distinct operation ids is accepted by `monCancelErr`: a call or ping returns `Err(Canceled)` only after
    the actor's task has ended (`taskDone` / `taskPanic` / `cancel`) or - for a call with message m - after
    the handler invocation for m was abandoned (`cbAbandon (handle m)`) or panicked (`cbPanic (handle m)`). -/
theorem CancelErr_holds (w : Wiring) (c : MonCtx) (ls : List Label) (s : AState)
    (hr : run w (AState.init c.cfg c.h0 c.k0) ls = some s) (hfresh : opIdsFresh ls = true) :
    monCancelErr.ok ls = true :=
  ok_of_run_lift_wf monCancelErr (monC02wf c) w (fun s σ seen => ∃ σ2, CEInv s σ2 σ ∧ SeenOk σ2 seen)
    (fun s s' σ seen seen' l ⟨σ2, hi, hseen⟩ hs hws => by
      obtain ⟨hb, hi'⟩ := ce_step w hi (wf_fresh hseen hws) hs
      exact ⟨_, by simp [monCancelErr, hb], _, hi', wf_seen hseen hws⟩)
    _ ⟨_, ⟨core02_init .., nofun, nofun⟩, seenOk_init⟩ ls s hr hfresh

/-- rejected: a call returns `Canceled` with nothing before it -/
example : monCancelErr.ok [ .cbBegin .started, .cbEnd .started true, .begin 0 0 (.call 1),
    .ret 0 (.err .canceled) ] = false := by decide
/-- rejected: a ping returns `Canceled` while the actor lives (an abandoned handler is no reason for a ping) -/
example : monCancelErr.ok [ .cbBegin .started, .cbEnd .started true, .begin 0 0 (.call 1), .begin 1 0 .ping,
    .cbBegin (.handle 1), .cbAbandon (.handle 1), .ret 1 (.err .canceled) ] = false := by decide
/-- rejected: the invocation abandoned was the one for another message -/
example : monCancelErr.ok [ .cbBegin .started, .cbEnd .started true, .begin 0 0 (.call 1), .begin 1 0 (.call 2),
    .cbBegin (.handle 1), .cbAbandon (.handle 1), .ret 1 (.err .canceled) ] = false := by decide
/-- accepted: the invocation for the call's own message was abandoned first -/
example : monCancelErr.ok [ .cbBegin .started, .cbEnd .started true, .begin 0 0 (.call 1),
    .cbBegin (.handle 1), .time 5, .cbAbandon (.handle 1), .ret 0 (.err .canceled) ] = true := by decide
/-- accepted: the invocation for the call's own message panicked first -/
example : monCancelErr.ok [ .cbBegin .started, .cbEnd .started true, .begin 0 0 (.callw 1),
    .cbBegin (.handle 1), .cbPanic (.handle 1), .ret 0 (.err .canceled) ] = true := by decide
/-- accepted: after `taskDone` -/
example : monCancelErr.ok [ .cbBegin .started, .cbEnd .started true, .begin 0 0 (.call 1), .begin 1 0 .ping,
    .stopReq 0 true, .taskDone, .ret 0 (.err .canceled), .ret 1 (.err .canceled) ] = true := by decide

/-- why the hypothesis on operation ids is needed: the model lets an id be re-used after `cdrop`; the
    abandonment of the invocation for the dropped call's message 1 then cancels the record of the new call
    (message 2) that carries the same id.  (`Props/CancelErrCurrent.lean` shows the model accepts this run.) -/
def cancelErrReuseOp : List Label :=
  [ .cbBegin .started, .cbEnd .started true, .begin 0 0 (.call 1), .cdrop 0, .begin 0 0 (.call 2),
    .cbBegin (.handle 1), .work 9, .time 5, .cbAbandon (.handle 1), .ret 0 (.err .canceled) ]
example : monCancelErr.ok cancelErrReuseOp = false := by decide
example : opIdsFresh cancelErrReuseOp = false := by decide

end Hannibal
