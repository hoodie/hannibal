import Hannibal.Props.C02
import Hannibal.Monitor.C17R
/-
  C17: a join / consume never hangs once the actor has terminated - a special case of C02's "nothing hangs".
-/
namespace Hannibal

theorem bad17r_bad02 (st : C02St) (l : Label) (h : bad17r st l = true) : bad02 st l = true := by
  cases l <;> first | (cases h; done) | skip
  case quiescent pend =>
    simp only [bad17r, Bool.and_eq_true, List.any_eq_true] at h
    obtain ⟨ht, o, ho, hk⟩ := h
    simp only [bad02, Bool.not_eq_true', List.all_eq_false]
    refine ⟨o, ho, ?_⟩
    cases hl : lookup o st.ops with
    | none => simp [hl] at hk
    | some p =>
      obtain ⟨k, late⟩ := p
      simp [pendOk, ht]

/-- **C17, resolves.** At every quiescent point after the actor's termination no join / consume is pending. -/
theorem C17r_holds (w : Wiring) (hw : w.notifyAfterStopped = true) (c : MonCtx) (ls : List Label) (s : AState)
    (hr : run w (AState.init c.cfg c.h0 c.k0) ls = some s) (hfresh : opIdsFresh ls = true) :
    (monC17r c).ok ls = true := by
  obtain ⟨st, hst⟩ := Option.isSome_iff_exists.mp (C02_holds w hw c ls s hr hfresh)
  -- `monC17r` moves as `monC02` does and rejects less
  obtain ⟨_, hm, -⟩ := (monC02 c).run_folds.sim (monC17r c).run_folds Eq
    (fun a a' _ l hab h => by
      subst hab
      simp only [monC02, Option.ite_none_left_eq_some, Option.some.injEq] at h
      have hb : bad17r a l = false := by
        cases h' : bad17r a l
        · rfl
        · exact absurd (bad17r_bad02 a l h') h.1
      exact ⟨a', by simp only [monC17r, hb, h.2]; rfl, rfl⟩)
    ls _ st _ rfl hst
  exact Option.isSome_iff_exists.mpr ⟨_, hm⟩

example : (monC17r default).ok [ .begin 0 0 .join, .cbBegin .started, .cbEnd .started true, .taskDone,
    .quiescent [0] ] = false := by decide
example : (monC17r default).ok [ .begin 0 0 .join, .cbBegin .started, .cbEnd .started true, .quiescent [0] ] = true := by
  decide

end Hannibal
