import Hannibal.Proofs.C13Q
import Hannibal.Props.C02
import Hannibal.Monitor.C13
/-
  C13q (a stream-attached actor ends with its stream / on stop / with its last strong handle, and otherwise
  has handled every item yielded so far, by quiescence): for every wiring in which strong handle kinds own
  the channel closures and weak ones own nothing, every run of the
  actor model whose `begin` labels carry pairwise distinct operation ids is accepted by `monC13q`.

  The operation-id hypothesis is the one of C02: the model alone lets an id be reused after `cdrop`, and a
  reply for the first holder of the id then reaches the second one (e.g. a `try_send`), which hangs for ever
  holding a strong sender: the actor is then quiescent with no strong *handle* and does not end
  (`c13qReuseWitness` in `Props/C13QCurrent.lean`).
-/
namespace Hannibal
open AState

def issuesStop13 : Label → Bool
  | .stopReq _ true | .ctxStop true => true
  | .begin _ _ .halt | .begin _ _ .tryHalt | .begin _ _ .consume => true
  | _ => false

def next13q (σ : C13qSt) (l : Label) : C13qSt :=
  { ready := (match l with
      | .streamReady k => σ.ready ++ [k]
      | .cbBegin (.item _) => σ.ready.tail
      | _ => σ.ready),
    ended := (match l with | .streamEnd => true | _ => σ.ended),
    stopIssued := issuesStop13 l || σ.stopIssued,
    failure := l.isFailure || σ.failure,
    terminated := l.terminates || σ.terminated,
    graceful := (match l with
      | .cbBegin _ => false
      | .cbEnd .stopped true => true
      | _ => σ.graceful),
    hold := σ.hold.step l }

theorem mon13q_eq (c : MonCtx) (hstream : c.cfg.stream = true) (σ : C13qSt) (l : Label)
    (hl : ∀ p, l ≠ .quiescent p) : (monC13q c).step σ l = some (next13q σ l) := by
  unfold monC13q
  simp only [hstream, Bool.not_true, Bool.false_eq_true, if_false]
  cases l
  case quiescent p => exact absurd rfl (hl p)
  case stopReq _ ok | ctxStop ok => cases ok <;> rfl
  case cbEnd cb ok => cases cb <;> cases ok <;> rfl
  case cbBegin cb => cases cb <;> rfl
  case begin o h k => cases k <;> rfl
  all_goals rfl

structure C13qInv (c : MonCtx) (s : AState) (σ : C13qSt) : Prop where
  c13 : ∃ σ13, C13Inv c s σ13
  hold : HInv s σ.hold
  ready : σ.ready = s.avail
  ended : σ.ended = s.streamEnded
  term : σ.terminated = s.isDone
  fin : endOk σ.failure σ.graceful s.phase = true
  stop : σ.stopIssued = true → loopAlive s.phase = true → 0 < cntP isStopP s ∨ NoHolder s
  rx : RxInv s

theorem issuesStop13_cases {l : Label} (h : issuesStop13 l = true) :
    isStopAcc l = true ∨ ∃ o h k, l = .begin o h k ∧ isStopKind k = true := by
  cases l <;> first | (cases h; done) | skip
  case stopReq _ ok | ctxStop ok => cases ok <;> first | exact .inl rfl | cases h
  case begin o h' k => exact .inr ⟨o, h', k, rfl, by cases k <;> first | rfl | cases h⟩

theorem c13q_step {w : Wiring} (hw : WellWired05 w) (c : MonCtx) (hstream : c.cfg.stream = true)
    {s s' : AState} {σ : C13qSt} {l : Label} (hi : C13qInv c s σ) (hs : step w s l = some s') :
    C13qInv c s' (next13q σ l) := by
  obtain ⟨σ13, h13⟩ := hi.c13
  obtain ⟨hd1, hd2⟩ := step_isDone w hs
  refine ⟨⟨_, (c13_step_stream w c hstream h13 hs).2⟩, hinv_step hi.hold hs, ?_, ?_, ?_, ?_, ?_,
    rxInv_step hs hi.rx⟩
  · rw [step_avail hs, ← hi.ready]
    cases l <;> first | rfl | (rename_i cb; cases cb <;> rfl)
  · rw [step_streamEnded hs, ← hi.ended]
    cases l <;> first | exact (Bool.or_false _).symm | exact (Bool.or_true _).symm
  · show (l.terminates || σ.terminated) = s'.isDone
    cases ht : l.terminates
    · rw [hd2 ht, hi.term]; rfl
    · rw [hd1 ht]; rfl
  · refine endOk_step hi.fin hs (fun h => by simp [next13q, h]) (fun h => ?_) ?_ ?_
    · -- an abandoned handler under `fail_on_timeout`: no handler of a stream-attached actor has a deadline
      cases hf : l.isFailure
      · simp only [Label.fails, hf, Bool.false_or] at h
        cases l <;> first | (cases h; done) | skip
        exact endOk_failed hi.fin (by rw [abandon_failed hs h13.ph]; rfl)
      · simp [next13q, hf]
    · intro hb hg
      cases l <;> first | exact hg | skip
      case cbBegin => cases hb
      case cbEnd cb ok => cases cb <;> cases ok <;> first | exact hg | rfl
    · rintro rfl; rfl
  · intro hsi halive
    simp only [next13q, Bool.or_eq_true] at hsi
    rcases hsi with h | h
    · rcases issuesStop13_cases h with hacc | ⟨o, h', k, rfl, hk⟩
      · exact .inl (stopAcc_cnt hs hacc)
      · rcases stepBegin_stopKind hw hs hk with h1 | h1 | h1
        · exact .inl h1
        · -- the receiver is gone: the task is done
          exfalso
          rw [step_phase hs rfl] at halive
          rcases hi.rx with hdn | hrx
          · unfold isDone at hdn
            cases hp : s.phase <;> rw [hp] at hdn halive <;> first | (cases halive; done) | cases hdn
          · rw [hrx] at h1; cases h1
        · exact .inr h1
    · rcases hi.stop h (alive_mono hs halive) with h1 | h1
      · exact .inl (Nat.lt_of_lt_of_le h1 (step_stop_keep hs halive))
      · exact .inr (noHolder_step hw h1 hs)

theorem c13q_quiescent {w : Wiring} (hw : WellWired05 w) (c : MonCtx) (hstream : c.cfg.stream = true)
    {s s' : AState} {σ : C13qSt} {σ02 : C02St} {pend : List Nat} (hi : C13qInv c s σ) (h02 : Lite02 s σ02)
    (hs : step w s (.quiescent pend) = some s') :
    s' = s ∧ (monC13q c).step σ (.quiescent pend) = some σ := by
  obtain ⟨hquiet, -, -, h⟩ := stepQuiescent_cases hs
  subst s'
  refine ⟨rfl, ?_⟩
  have hstep : (monC13q c).step σ (.quiescent pend) =
      (if σ.failure then some σ
       else if σ.ended || σ.stopIssued || !σ.hold.strongHeld then
         (if σ.terminated && σ.graceful then some σ else none)
       else if !σ.terminated && !σ.ready.isEmpty then none
       else some σ) := by
    unfold monC13q; simp only [hstream]; rfl
  rw [hstep]
  cases hf : σ.failure
  case true => rfl
  simp only [Bool.false_eq_true, if_false]
  rcases quiet_phase hquiet with ⟨g, hp⟩ | ⟨hp, hqe, hstr⟩
  · -- the task has ended, and not by a failure
    have hterm : σ.terminated = true := by rw [hi.term, isDone, hp]
    have hfin := hi.fin
    rw [hp] at hfin
    cases g
    · exact absurd (hf.symm.trans hfin) nofun
    · simp [hterm, show σ.graceful = true from hfin]
  · -- the loop is parked on an empty mailbox: somebody strong keeps the channel open, no `stop` request
    -- can be in it, and the stream is silent
    obtain ⟨σ13, h13⟩ := hi.c13
    obtain ⟨hav, hse⟩ := hstr (by rw [h13.cfg, hstream])
    have hstrong : ∀ {b}, s.handles.any (fun p => p.2.strong) = b → b = true := by
      rintro (_ | _) hb
      · exact (idle_quiet_absurd hw h02 hquiet hp hb).elim
      · rfl
    have hheld : σ.hold.strongHeld = true := by
      unfold HoldSt.strongHeld; rw [hi.hold.handles]; exact hstrong rfl
    have hsi : σ.stopIssued = false := by
      cases hsi : σ.stopIssued
      · rfl
      · rcases hi.stop hsi (by rw [hp]; rfl) with h | h
        · simp [cntP, hqe] at h
        · exact (hstrong h.not_strong).symm
    simp [hheld, hsi, hi.ended.trans hse, hi.ready.trans hav]

theorem c13q_init (c : MonCtx) : C13qInv c (AState.init c.cfg c.h0 c.k0) (monC13q c).init :=
  ⟨⟨_, c13_init c⟩, ⟨rfl, nofun⟩, rfl, rfl, rfl, rfl, nofun, rxInv_init _ _ _⟩

/-- **C13q (a stream-attached actor ends with its stream, on stop, or with its last strong handle).**
    For every wiring in which the strong handle kinds own both channel closures and the weak kinds own nothing
    and must upgrade; for every run of the actor model (every
    client program and interleaving, empty / finite / never-ending / bursty streams, messages and timers
    interleaved with items) whose `begin` labels carry pairwise distinct operation ids: whenever nothing
    about the actor can move any more (`quiescent`) and no failure event occurred, then
      * if the stream has ended, or a stop was issued (`stop` / `try_stop` / `Context::stop` accepted, or a
        `halt` / `try_halt` / `consume` begun), or no strong handle is held: the actor's task has ended and it
        ended right after a completed `stopped` callback;
      * otherwise, if the actor has not terminated: every item the stream yielded so far has been handled. -/
theorem C13q_holds (w : Wiring) (hw : WellWired05 w) (c : MonCtx)
    (ls : List Label) (s : AState) (hr : run w (AState.init c.cfg c.h0 c.k0) ls = some s)
    (hfresh : opIdsFresh ls = true) : (monC13q c).ok ls = true := by
  cases hstream : c.cfg.stream
  · -- plain (not stream-attached) actors: `monC13q` has nothing to say
    exact ok_of_run_lift (monC13q c) w (fun _ _ => True)
      (fun _ _ σ _ _ _ => ⟨σ, by simp [monC13q, hstream], trivial⟩) _ trivial ls s hr
  · -- the part of the C02 coupling that does not depend on the latch rides along, fed by the fresh ids
    refine ok_of_run_lift_wf (monC13q c) (monC02wf c) w
      (fun s σ seen => ∃ σ02, C13qInv c s σ ∧ Lite02 s σ02 ∧ SeenOk σ02 seen) ?_ _
      ⟨_, c13q_init c, lite02_init c, seenOk_init⟩ ls s hr hfresh
    rintro s s' σ seen seen' l ⟨σ02, hi, h02, hseen⟩ hs hws
    have h02' := lite02_step w h02 (wf_fresh hseen hws) hs
    by_cases hq : ∃ p, l = .quiescent p
    · obtain ⟨p, rfl⟩ := hq
      obtain ⟨rfl, hm⟩ := c13q_quiescent hw c hstream hi h02 hs
      exact ⟨σ, hm, _, hi, h02', wf_seen hseen hws⟩
    · exact ⟨_, mon13q_eq c hstream σ l fun p e => hq ⟨p, e⟩, _, c13q_step hw c hstream hi hs, h02',
        wf_seen hseen hws⟩

def c13qCfg : Cfg := { cap := none, strat := .non, timeout := none, failOnTimeout := false, stream := true }
def c13qCtx : MonCtx := { cfg := c13qCfg, h0 := 0, k0 := .addr, prompt := true }
/-- two items, quiescent on the live stream with a strong handle held, then the stream ends and the actor
    with it -/
def c13qExample : List Label :=
  [ .cbBegin .started, .cbEnd .started true, .streamReady 0, .streamReady 1,
    .cbBegin (.item 0), .cbEnd (.item 0) true, .cbBegin (.item 1), .cbEnd (.item 1) true, .quiescent [],
    .streamEnd, .tStreamEnd, .cbBegin .finished, .cbEnd .finished true, .cbBegin .stopped, .cbEnd .stopped true,
    .taskDone, .quiescent [] ]
example : (monC13q c13qCtx).ok c13qExample = true := by decide
example : opIdsFresh c13qExample = true := by decide
/-- an item left unhandled at quiescence -/
example : (monC13q c13qCtx).ok [ .cbBegin .started, .cbEnd .started true, .streamReady 0, .streamReady 1,
    .cbBegin (.item 0), .cbEnd (.item 0) true, .quiescent [] ] = false := by decide
/-- the stream ended and the actor is still parked -/
example : (monC13q c13qCtx).ok [ .cbBegin .started, .cbEnd .started true, .streamEnd, .quiescent [] ] = false := by
  decide
/-- the last strong handle is gone and the actor is still parked -/
example : (monC13q c13qCtx).ok [ .cbBegin .started, .cbEnd .started true, .drop 0, .quiescent [] ] = false := by
  decide
/-- a stop was accepted and the actor ended without `stopped` -/
example : (monC13q c13qCtx).ok [ .cbBegin .started, .cbEnd .started true, .stopReq 0 true, .tDeq,
    .cbBegin .finished, .cbEnd .finished true, .taskDone, .quiescent [] ] = false := by decide

end Hannibal
