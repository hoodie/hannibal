import Hannibal.Proofs.SysProj
import Hannibal.Proofs.C16Queue
import Hannibal.Props.C05
/-
  C16 (children live exactly as long as their parent and receive its broadcasts), for systems of any
  number of actors and any parent → child graph (any depth, several parents, cycles):

  * `C16_kept`      in every reachable system state every registered child handle is a live `Sender` in the
                    child's handle table and its owner has not terminated;
  * `C16_released`  the step that ends a parent's task removes all its registrations and drops exactly those
                    handles in the children;
  * `sys_actor_run` what happens to any one actor inside a system run is a run of the single-actor model over
                    its projection, so every single-actor theorem applies to it - in particular
  * `C16_lifetime`  C05 for every actor of every system: a child's final `stopped` begins only if it was asked to
                    stop, failed, its stream ended, or no strong handle is left - and by `C16_kept` the parent's
                    handle is one for as long as the parent has not terminated;
  * `C16_broadcast` a broadcast is taken up only by an actor registered under its type with the broadcasting
                    parent at the time it was sent, at most once per registration (`monC16`).
-/
namespace Hannibal
open AState

theorem C16_kept (w : Wiring) (ls : List SLabel) (S : Sys) (hr : srun w Sys.init ls = some S) :
    ∀ k ∈ S.kids, (∃ sc, S.get k.c = some sc ∧ sc.handleKind k.h = some .sender) ∧
      (∃ sp, S.get k.p = some sp ∧ sp.isDone = false) := by
  have hi := sinv_run ls Sys.init S sinv_init hr
  intro k hk
  obtain ⟨sc, h1, h2, _⟩ := hi.held k hk
  exact ⟨⟨sc, h1, h2⟩, hi.parent k hk⟩

/-- The step that ends parent `p`'s task: no registration of `p` survives, and every handle it owned is
    gone from its child's handle table. -/
theorem C16_released (w : Wiring) (ls : List SLabel) (S S' : Sys) (p : Nat) (l : Label)
    (hr : srun w Sys.init ls = some S) (hs : sstep w S (.act p l) = some S') (ht : l.endsTask = true) :
    (∀ k ∈ S'.kids, k.p ≠ p) ∧
    (∀ k ∈ S.kids, k.p = p → ∃ sc', S'.get k.c = some sc' ∧ sc'.handleKind k.h = none) := by
  have hi := sinv_run ls Sys.init S sinv_init hr
  have hkids := sstep_kids hs
  obtain ⟨s, s', hg, -, -, hget⟩ := get_act hs
  refine ⟨fun k hk => ?_, fun k hk hkp => ?_⟩
  · rw [hkids] at hk
    simp only [nextKids, ht, if_true] at hk
    simpa using (List.mem_filter.mp hk).2
  · obtain ⟨sc, hgc, -⟩ := hi.held k hk
    -- whatever the parent's own step left of the child: the handle is among those dropped with the context
    obtain ⟨sc1, h1⟩ : ∃ sc1, (if k.c = p then some s' else S.get k.c) = some sc1 := by
      split
      · exact ⟨_, rfl⟩
      · exact ⟨sc, hgc⟩
    refine ⟨Sys.dropAll (S.heldBy p k.c) sc1, by rw [hget, h1]; simp only [Option.map_some, ht, if_true], ?_⟩
    rw [dropAll_handleKind, if_pos]
    simp only [Sys.heldBy, List.contains_iff_mem, List.mem_map, List.mem_filter]
    exact ⟨k, ⟨hk, by simp [hkp]⟩, rfl⟩

theorem emits_absent {S : Sys} (hi : SInv S) {w : Wiring} {l : SLabel} {S' : Sys} (hs : sstep w S l = some S')
    {a : Nat} (hg : S.get a = none) : emits S.kids a l = [] := by
  have hnk : ∀ k ∈ S.kids, k.c ≠ a := by
    intro k hk e
    obtain ⟨sc, h1, _⟩ := hi.held k hk
    rw [e, hg] at h1; cases h1
  cases l with
  | spawn => rfl
  | addChild => rfl
  | act a' l =>
    obtain ⟨s, -, hg', -⟩ := sstep_act hs
    have hne : a' ≠ a := fun e => by rw [e, hg] at hg'; cases hg'
    simp only [emits, hne, if_false, List.nil_append]
    split
    · rw [List.filter_eq_nil_iff.mpr fun k hk => by simp [hnk k hk]]; rfl
    · rfl
  | bcast p ty b =>
    simp only [emits]
    rw [List.filter_eq_nil_iff.mpr fun k hk => by simp [hnk k hk]]; rfl

theorem sstep_absent {w : Wiring} {S S' : Sys} {l : SLabel} (hs : sstep w S l = some S') {a : Nat}
    (hg : S.get a = none) :
    S'.get a = none ∨ ∃ cfg h0 k0, l = .spawn a cfg h0 k0 ∧ S'.get a = some (AState.init cfg h0 k0) := by
  cases l with
  | spawn a0 cfg h0 k0 =>
    obtain ⟨hn, rfl⟩ := sstep_spawn hs
    rw [Sys.get_append_new S a0 a _ hn]
    by_cases ha : a = a0
    · subst ha; exact .inr ⟨cfg, h0, k0, rfl, if_pos rfl⟩
    · rw [if_neg ha]; exact .inl hg
  | act a0 l =>
    obtain ⟨s, s', hg0, -, -, hget⟩ := get_act hs
    rw [hget, if_neg (fun e => by rw [e, hg0] at hg; cases hg), hg]
    exact .inl rfl
  | addChild p ty c h =>
    obtain ⟨sp, sc, -, -, -, -, -, -, rfl⟩ := sstep_addChild hs
    exact .inl hg
  | bcast p ty b =>
    obtain ⟨sp, -, -, rfl⟩ := sstep_bcast hs
    exact .inl (by simp only [Sys.broadcast]; rw [Sys.get_applyTo, hg]; rfl)

theorem srun_proj_absent {w : Wiring} : ∀ (ls : List SLabel) (S S' : Sys), SInv S → srun w S ls = some S' →
    ∀ {a : Nat} {sa : AState}, S.get a = none → S'.get a = some sa →
      ∃ cfg h0 k0, run w (AState.init cfg h0 k0) (projFrom S.kids a ls) = some sa
  | [], S, S', _, hr, a, sa, hg, hg' => by
    simp [srun] at hr; subst hr; rw [hg] at hg'; simp at hg'
  | l :: ls, S, S', hi, hr, a, sa, hg, hg' => by
    simp only [srun] at hr
    cases hs : sstep w S l with
    | none => simp [hs] at hr
    | some S1 =>
      simp only [hs] at hr
      rw [projFrom_cons, emits_absent hi hs hg, List.nil_append, ← sstep_kids hs]
      rcases sstep_absent hs hg with h1 | ⟨cfg, h0, k0, _, h1⟩
      · exact srun_proj_absent ls S1 S' (sinv_step hi hs) hr h1 hg'
      · obtain ⟨sa', hga, hra⟩ := srun_proj ls S1 S' (sinv_step hi hs) hr h1
        rw [hga] at hg'; simp at hg'; subst hg'
        exact ⟨cfg, h0, k0, hra⟩

/-- **Every actor of every system runs the single-actor model** over its projection. -/
theorem sys_actor_run (w : Wiring) (ls : List SLabel) (S : Sys) (hr : srun w Sys.init ls = some S)
    (a : Nat) (sa : AState) (hg : S.get a = some sa) :
    ∃ cfg h0 k0, run w (AState.init cfg h0 k0) (projOf a ls) = some sa :=
  srun_proj_absent ls Sys.init S sinv_init hr (by simp [Sys.init, Sys.get]) hg

/-- **C16, lifetime.** C05 holds of every actor of every system: the final `stopped` of a child begins only
    if it was asked to stop, it failed, its stream ended or no strong handle is left - and (`C16_kept`) the
    handle its parent owns is a strong handle for as long as the parent has not terminated. -/
theorem C16_lifetime (w : Wiring) (hw : WellWired05 w) (ls : List SLabel) (S : Sys)
    (hr : srun w Sys.init ls = some S) (a : Nat) (sa : AState) (hg : S.get a = some sa) :
    ∃ cfg h0 k0, (monC05 { cfg, h0, k0, prompt := false }).ok (projOf a ls) = true := by
  obtain ⟨cfg, h0, k0, hrun⟩ := sys_actor_run w ls S hr a sa hg
  exact ⟨cfg, h0, k0, C05_holds w hw { cfg, h0, k0, prompt := false } (projOf a ls) sa hrun⟩

structure C16Inv (S : Sys) (σ : C16St) : Prop where
  kids : σ.kids = S.kids
  /-- the monitor's debt bounds the `ext b` copies still queued -/
  owed : ∀ c sc b, S.get c = some sc → extCnt b sc ≤ σ.owed b c

theorem clientOk_not_extPush {S : Sys} {a : Nat} {l : Label} (h : S.clientOk a l = true) : ∀ b, l ≠ .extPush b := by
  rintro b rfl; cases h

theorem c16_step {w : Wiring} {S S' : Sys} {σ : C16St} {l : SLabel} (hi : C16Inv S σ)
    (hs : sstep w S l = some S') : bad16 σ l = false ∧ C16Inv S' (next16 σ l) := by
  have hkids := sstep_kids hs
  cases l with
  | spawn a cfg h0 k0 =>
    refine ⟨rfl, ⟨by rw [hkids]; exact hi.kids, fun c sc b hg => ?_⟩⟩
    obtain ⟨hn, rfl⟩ := sstep_spawn hs
    rw [Sys.get_append_new S a c _ hn] at hg
    split at hg
    · cases hg; simp [extCnt, cntP, AState.init, Chan.init]
    · exact hi.owed c sc b hg
  | addChild p ty c h =>
    refine ⟨rfl, ⟨by rw [hkids]; simp [next16, nextKids, hi.kids], ?_⟩⟩
    obtain ⟨sp, sc, -, -, -, -, -, -, rfl⟩ := sstep_addChild hs
    exact hi.owed
  | bcast p ty b =>
    refine ⟨rfl, ⟨by rw [hkids]; simp [next16, nextKids, hi.kids], fun c sc b' hg => ?_⟩⟩
    obtain ⟨sp, -, -, rfl⟩ := sstep_bcast hs
    simp only [Sys.broadcast] at hg
    rw [Sys.get_applyTo] at hg
    cases hgc : S.get c with
    | none => rw [hgc] at hg; cases hg
    | some sc0 =>
      rw [hgc] at hg; obtain rfl := Option.some.inj hg
      have h1 := pushAll_cntP (isExtP b') b (S.kids.filter (fun k => k.p == p && k.ty == ty && k.c == c)).length sc0
      have h2 := hi.owed c sc0 b' hgc
      simp only [next16, regCount, hi.kids, extCnt] at h1 h2 ⊢
      rw [h1]
      by_cases hb : b' = b
      · subst hb; simp only [isExtP, beq_self_eq_true, and_true, if_true]; split <;> omega
      · have : isExtP b' (.ext b) = false := by simp [isExtP]; exact fun e => hb e.symm
        simp only [this, Bool.false_eq_true, and_false, if_false, hb]; omega
  | act a l =>
    obtain ⟨s, s', hg, hcl, hst, hget⟩ := get_act hs
    -- what waits in each mailbox is what waited after the actor's own step: a release drops handles only
    have hcnt : ∀ c sc b', S'.get c = some sc →
        ∃ sc0, (if c = a then some s' else S.get c) = some sc0 ∧ extCnt b' sc = extCnt b' sc0 := by
      intro c sc b' hgc
      rw [hget] at hgc
      cases hm : (if c = a then some s' else S.get c) with
      | none => rw [hm] at hgc; cases hgc
      | some sc0 =>
        rw [hm] at hgc; obtain rfl := Option.some.inj hgc
        exact ⟨sc0, rfl, by split; exact extCnt_dropAll ..; rfl⟩
    by_cases hext : ∃ b m, l = .extBegin b m
    · obtain ⟨b, m, rfl⟩ := hext
      have hdec := stepExtBegin_extCnt hst
      have hpos : 1 ≤ σ.owed b a := by
        have := hi.owed a s b hg
        have h2 := hdec b
        rw [if_pos rfl] at h2; omega
      refine ⟨by simp only [bad16]; simp; omega, ⟨by rw [hkids]; simp [next16, nextKids, Label.endsTask, hi.kids],
        fun c sc b' hgc => ?_⟩⟩
      obtain ⟨sc0, hg0, hec⟩ := hcnt c sc b' hgc
      rw [hec]
      simp only [next16]
      split at hg0
      · rename_i hc
        obtain rfl := Option.some.inj hg0
        have h1 := hdec b'
        have h2 := hi.owed a s b' hg
        by_cases hb : b' = b
        · subst hb; simp only [hc, and_self, if_true] at h1 ⊢; omega
        · simp only [hb, if_false, false_and] at h1 ⊢; rw [hc]; omega
      · rename_i hc
        simp only [hc, and_false, if_false]
        exact hi.owed c sc0 b' hg0
    · have hne : ∀ b m, l ≠ .extBegin b m := fun b m e => hext ⟨b, m, e⟩
      have hnext : next16 σ (.act a l) =
          (if l.endsTask then { σ with kids := σ.kids.filter (fun k => k.p != a) } else σ) := by
        cases l <;> first | rfl | exact absurd rfl (hne _ _)
      refine ⟨by cases l <;> first | rfl | exact absurd rfl (hne _ _), ⟨?_, fun c sc b' hgc => ?_⟩⟩
      · rw [hkids, hnext]; simp only [nextKids]; split <;> simp [hi.kids]
      · obtain ⟨sc0, hg0, hec⟩ := hcnt c sc b' hgc
        have howed : (next16 σ (.act a l)).owed = σ.owed := by rw [hnext]; split <;> rfl
        rw [hec, howed]
        split at hg0
        · rename_i hc
          obtain rfl := Option.some.inj hg0
          exact Nat.le_trans (step_extCnt b' hst (clientOk_not_extPush hcl)) (hc ▸ hi.owed a s b' hg)
        · exact hi.owed c sc0 b' hg0

/-- **C16, broadcasts.** In every run of every system a broadcast is taken up only by an actor that was
    registered under its type with the broadcasting parent when it was sent, at most once per registration. -/
theorem C16_broadcast (w : Wiring) (ls : List SLabel) (S : Sys) (hr : srun w Sys.init ls = some S) :
    monC16.ok ls = true := by
  unfold SMon.ok
  obtain ⟨σ', hm, _⟩ := srun_lift monC16 w C16Inv
    (fun S S' σ l hi hs => let ⟨hb, hi'⟩ := c16_step hi hs; ⟨next16 σ l, by simp [monC16, hb], hi'⟩)
    ls Sys.init S monC16.init ⟨rfl, by intro c sc b hg; simp [Sys.init, Sys.get] at hg⟩ hr
  simp [hm]

def c16Cfg : Cfg := { cap := none, strat := .only, timeout := none, failOnTimeout := false, stream := false }

/-- parent 0 registers child 1 (handle 11) under type 1, broadcasts 7, the child takes it up; the parent's
    task ends, the handle is dropped, the child drains and stops -/
def c16Example : List SLabel :=
  [ .spawn 0 c16Cfg 0 .addr, .spawn 1 c16Cfg 1 .addr, .act 1 (.mk 1 11 .sender), .act 1 (.drop 1),
    .act 0 (.cbBegin .started), .addChild 0 1 1 11, .bcast 0 1 7, .act 0 (.cbEnd .started true),
    .act 1 (.cbBegin .started), .act 1 (.cbEnd .started true), .act 1 (.extBegin 7 100),
    .act 1 (.cbBegin (.handle 100)), .act 1 (.cbEnd (.handle 100) true),
    .act 0 (.drop 0), .act 0 .tChanEnd, .act 0 (.cbBegin .stopped), .act 0 (.cbEnd .stopped true), .act 0 .taskDone,
    .act 1 .tChanEnd, .act 1 (.cbBegin .stopped), .act 1 (.cbEnd .stopped true), .act 1 .taskDone ]
example : monC16.ok c16Example = true := by decide
example : projOf 1 c16Example =
    [ .mk 1 11 .sender, .drop 1, .extPush 7, .cbBegin .started, .cbEnd .started true, .extBegin 7 100,
      .cbBegin (.handle 100), .cbEnd (.handle 100) true, .drop 11, .tChanEnd, .cbBegin .stopped,
      .cbEnd .stopped true, .taskDone ] := by decide
-- taken up by an actor that was not registered; taken up twice
example : monC16.ok [ .spawn 0 c16Cfg 0 .addr, .spawn 1 c16Cfg 1 .addr, .act 0 (.cbBegin .started), .bcast 0 1 7,
    .act 1 (.extBegin 7 100) ] = false := by decide
example : monC16.ok [ .spawn 0 c16Cfg 0 .addr, .spawn 1 c16Cfg 1 .addr, .act 1 (.mk 1 11 .sender),
    .act 0 (.cbBegin .started), .addChild 0 1 1 11, .bcast 0 1 7, .act 1 (.extBegin 7 100),
    .act 1 (.extBegin 7 101) ] = false := by decide

end Hannibal
