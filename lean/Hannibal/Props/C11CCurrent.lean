import Hannibal.Props.C11C
import Hannibal.Generated.Wiring
/- C11c (the caller of an abandoned invocation receives an error) for the wiring extracted from today's
   source (the theorem holds for every wiring), with runs of that wiring as witnesses. -/
namespace Hannibal

theorem C11c_current (c : MonCtx) (ls : List Label) (s : AState)
    (hr : run Wiring.current (AState.init c.cfg c.h0 c.k0) ls = some s) (hwf : wf01 ls = true) :
    (monC11c c).ok ls = true :=
  C11c_holds _ c ls s hr hwf

/-! ### non-vacuity: timeout 5, a call whose invocation needs 9 is abandoned at the deadline, its caller
    gets `canceled`, the next call is served -/

example : (run Wiring.current (AState.init c11cCfg 0 .addr) c11cExample).isSome = true := by decide
example : (grun Wiring.current (AState.init c11cCfg 0 .addr) c11cExample).isSome = true := by decide
example : wf01 c11cExample = true := by decide
example : (monC11c c11cCtx).ok c11cExample = true := by decide

/-- the same with `fail_on_timeout`: the abandoned invocation ends the actor; both callers get `canceled` -/
def c11cCfgFail : Cfg := { cap := none, strat := .only, timeout := some 5, failOnTimeout := true, stream := false }
def c11cCtxFail : MonCtx := { cfg := c11cCfgFail, h0 := 0, k0 := .addr, prompt := true }
def c11cExampleFail : List Label :=
  [ .cbBegin .started, .cbEnd .started true, .begin 0 0 (.call 1), .begin 1 0 (.call 2), .cbBegin (.handle 1),
    .work 9, .time 5, .cbAbandon (.handle 1), .taskDone, .ret 0 (.err .canceled), .ret 1 (.err .canceled) ]
example : (run Wiring.current (AState.init c11cCfgFail 0 .addr) c11cExampleFail).isSome = true := by decide
example : (grun Wiring.current (AState.init c11cCfgFail 0 .addr) c11cExampleFail).isSome = true := by decide
example : wf01 c11cExampleFail = true := by decide
example : (monC11c c11cCtxFail).ok c11cExampleFail = true := by decide

/-- the model refuses the bad continuation: after the abandonment the caller cannot get a reply -/
example : (run Wiring.current (AState.init c11cCfg 0 .addr) (c11cExample.take 8 ++
    [ .ret 0 (.okReply { m := 1, birth := 0, digest := [1] }) ])) = none := by decide

example : (monC11c c11cCtx).ok (c11cExample.take 8 ++
    [ .ret 0 (.okReply { m := 1, birth := 0, digest := [1] }) ]) = false := by decide
example : (monC11c c11cCtx).ok [ .cbBegin .started, .cbEnd .started true, .mk 0 1 .caller, .begin 0 1 (.callw 1),
    .cbBegin (.handle 1), .time 5, .cbAbandon (.handle 1), .ret 0 .ok ] = false := by decide

/-! ### why `wf01` is a hypothesis: the monitor identifies invocations by message number and callers by
    operation id; the model lets a trace re-use either.  Real traces never do. -/

/-- a message number used twice: the first invocation of "1" is abandoned (its caller gets the error), the
    second call of "1" is served — for the monitor "1" was abandoned -/
def c11cReuseMsg : List Label :=
  [ .cbBegin .started, .cbEnd .started true, .begin 0 0 (.call 1), .cbBegin (.handle 1), .time 5,
    .cbAbandon (.handle 1), .ret 0 (.err .canceled), .begin 1 0 (.call 1), .cbBegin (.handle 1),
    .cbEnd (.handle 1) true, .ret 1 (.okReply { m := 1, birth := 0, digest := [1, 1] }) ]
example : (run Wiring.current (AState.init c11cCfg 0 .addr) c11cReuseMsg).isSome = true := by decide
example : (grun Wiring.current (AState.init c11cCfg 0 .addr) c11cReuseMsg).isSome = true := by decide
example : (monC11c c11cCtx).ok c11cReuseMsg = false := by decide
example : wf01 c11cReuseMsg = false := by decide

/-- an operation id re-used after its future was dropped: the reply slot of the dropped call "1" is filled
    into the record of the new call "2", whose own invocation is abandoned later -/
def c11cReuseOp : List Label :=
  [ .cbBegin .started, .cbEnd .started true, .begin 0 0 (.call 1), .cdrop 0, .begin 0 0 (.call 2),
    .cbBegin (.handle 1), .cbEnd (.handle 1) true, .cbBegin (.handle 2), .time 5, .cbAbandon (.handle 2),
    .ret 0 (.okReply { m := 1, birth := 0, digest := [1] }) ]
example : (run Wiring.current (AState.init c11cCfg 0 .addr) c11cReuseOp).isSome = true := by decide
example : (grun Wiring.current (AState.init c11cCfg 0 .addr) c11cReuseOp).isSome = true := by decide
example : (monC11c c11cCtx).ok c11cReuseOp = false := by decide
example : wf01 c11cReuseOp = false := by decide

end Hannibal
