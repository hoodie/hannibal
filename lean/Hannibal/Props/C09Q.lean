import Hannibal.Proofs.C09Q
/-
  C09, liveness at quiescence (broker): in every run of the broker model in which no publication number is
  published twice (`wf09`) and that ends in a *settled* state - every begun operation has entered the broker's
  mailbox (`pend = []`), the broker has handled its whole mailbox (`mbox = []`) and nothing is on its way to a
  subscriber (`flight = []`) - the end-of-trace check `C09St.quiescentOk` of Monitor/C09.lean holds: every
  publication whose publish returned has been taken up by every required subscriber.

  Proof: `required c P` gives a subscribe `S` of `c` that returned before `P` began, every unsubscribe of `c`
  returned before `S` began.  All operations are in the ghost handling order `H` (nothing pending, nothing
  queued); real-time order implies enqueue order (`enq_order`), so in `H`: every `unsub c` < `S` < `P`, i.e. `c`
  is in the table when `pub m` is handled (`SubAt`, `SubConv`), and `c` is not dead then because it is not
  dead at the end.  `DelInv`: `(c, m)` was taken up or is still on its way; `flight = []` excludes the latter.

  No hypothesis beyond `wf09` (already needed by `C09_holds`) and settledness is needed.  The corners:
  a subscribe not yet handled is excluded by `mbox = []`; a terminated subscriber is excused by `required`
  (`dead`), and `dead` of the monitor and of the model coincide; subscribing twice is harmless (`SubConv` only
  looks at the *last* handled subscribe / unsubscribe item); operation ids can only be re-used by the model once
  the earlier operation returned (`bbegin` refuses an id in `pend` or `sent`), which `next09 (.bret o)` handles.

  `required` demands *less* than the model guarantees: an unsubscribe of `c` that began after the publish
  returned cannot un-send what the broker already sent.  `C09qs_holds` proves the check with the stronger
  `requiredS` (every unsubscribe of `c` definitely before `S` *or definitely after `P`*).
-/
namespace Hannibal

/-- the model-side reading of the driver's `settled` (Driver/Brk09.lean) -/
def BrSt.settled (s : BrSt) : Bool := s.pend.isEmpty && s.mbox.isEmpty && s.flight.isEmpty

theorem settled_iff (s : BrSt) : s.settled = true ↔ s.pend = [] ∧ s.mbox = [] ∧ s.flight = [] := by
  unfold BrSt.settled
  simp [List.isEmpty_iff, and_assoc]

/-- like `required`, but an unsubscribe that lies definitely *after* the publish does not excuse either -/
def C09St.requiredS (st : C09St) (c : Nat) (P : Op9) : Bool :=
  P.tr.isSome && !st.dead.contains c &&
  st.ops.any (fun S => S.it == .sub c && defBefore S P &&
    st.ops.all (fun U => !(U.it == .unsub c) || defBefore U S || defBefore P U))

def C09St.quiescentOkS (st : C09St) : Bool :=
  st.ops.all (fun P =>
    match P.it with
    | .pub m =>
      st.ops.all (fun S =>
        match S.it with
        | .sub c => !st.requiredS c P || st.seq.contains (c, m)
        | _ => true)
    | _ => true)

theorem qcheck_iff {ops : List Op9} {seq : List (Nat × Nat)} (req : Nat → Op9 → Bool) :
    ops.all (fun P =>
      match P.it with
      | .pub m =>
        ops.all (fun S =>
          match S.it with
          | .sub c => !req c P || seq.contains (c, m)
          | _ => true)
      | _ => true) = true ↔
    ∀ P ∈ ops, ∀ m, P.it = .pub m → ∀ S ∈ ops, ∀ c, S.it = .sub c → req c P = true → (c, m) ∈ seq := by
  simp only [List.all_eq_true]
  refine forall₂_congr fun P _ => ?_
  cases P.it <;> simp only [reduceCtorEq, false_imp_iff, implies_true, List.all_eq_true, BItem.pub.injEq, forall_eq']
  refine forall₂_congr fun S _ => ?_
  cases S.it <;> simp
  cases req _ P <;> simp

theorem requiredS_iff {σ : C09St} {c : Nat} {P : Op9} :
    σ.requiredS c P = true ↔ (∃ r, P.tr = some r) ∧ c ∉ σ.dead ∧ ∃ S ∈ σ.ops, S.it = .sub c ∧ defBefore S P = true ∧
      ∀ U ∈ σ.ops, U.it = .unsub c → defBefore U S = true ∨ defBefore P U = true := by
  simp [C09St.requiredS, Option.isSome_iff_exists, and_assoc, or_assoc, Decidable.imp_iff_not_or]

theorem required_requiredS {σ : C09St} {c : Nat} {P : Op9} (h : σ.required c P = true) :
    σ.requiredS c P = true := by
  unfold C09St.required at h
  unfold C09St.requiredS
  simp only [Bool.and_eq_true, List.any_eq_true, List.all_eq_true, Bool.or_eq_true] at h ⊢
  obtain ⟨h1, S, hS, h2, h3⟩ := h
  exact ⟨h1, S, hS, h2, fun U hU => Or.inl (h3 U hU)⟩

theorem quiescentOk_of_S {σ : C09St} (h : σ.quiescentOkS = true) : σ.quiescentOk = true :=
  (qcheck_iff σ.required).mpr fun P hP m hm S hS c hc hreq =>
    (qcheck_iff σ.requiredS).mp h P hP m hm S hS c hc (required_requiredS hreq)

/-- **C09 at quiescence (broker), strong form**: `requiredS` instead of `required`, and `pend = []` is not
    needed (an operation still in `pend` has not returned, and only returned operations - and unsubscribes,
    which when pending have not reached the broker - matter). -/
theorem C09qs_holds (ls : List BLabel) (s : BrSt) (hr : brun BrSt.init ls = some s) (hwf : wf09 ls = true)
    (hmb : s.mbox = []) (hfl : s.flight = []) :
    ∀ σ, monC09.run monC09.init ls = some σ → σ.quiescentOkS = true := by
  intro σ hσ
  obtain ⟨W', hw⟩ := Option.isSome_iff_exists.mp hwf
  obtain ⟨σ', hm, H, Q, hi, hq⟩ := run_lockstep (P := fun s σ W => ∃ H Q, C09Inv s σ W H Q ∧ QInv09 s σ H)
    (fun ⟨_, _, hi, hq⟩ hs hw =>
      have ⟨hb, Q', hi'⟩ := c09_step_h hi hs hw
      ⟨hb, _, Q', hi', c09q_step hq hi.mb hs⟩)
    ⟨_, _, c09_init, c09q_init⟩ hr hw
  cases hm.symm.trans hσ
  obtain rfl : Q = [] := List.map_eq_nil_iff.mp (hi.mb.symm.trans hmb)
  exact (qcheck_iff σ.requiredS).mpr fun _ hP _ hPit _ _ _ _ hreq =>
    have ⟨⟨_, hPr⟩, hd, _, hS, hSit, hSP, hU⟩ := requiredS_iff.mp hreq
    c09q_core hi hq hfl hP hPit hPr hd hS hSit hSP hU

/-- **C09 at quiescence (broker).**  The end-of-trace check of the monitor, as written. -/
theorem C09q_holds (ls : List BLabel) (s : BrSt) (hr : brun BrSt.init ls = some s) (hwf : wf09 ls = true)
    (hset : s.pend = [] ∧ s.mbox = [] ∧ s.flight = []) :
    ∀ σ, monC09.run monC09.init ls = some σ → σ.quiescentOk = true :=
  fun σ hσ => quiescentOk_of_S (C09qs_holds ls s hr hwf hset.2.1 hset.2.2 σ hσ)

/-- the same with the Bool-valued `settled` and with the existence of the monitor state (`C09_holds`) -/
theorem C09q_holds' (ls : List BLabel) (s : BrSt) (hr : brun BrSt.init ls = some s) (hwf : wf09 ls = true)
    (hset : s.settled = true) :
    ∃ σ, monC09.run monC09.init ls = some σ ∧ σ.quiescentOk = true := by
  have hok := C09_holds ls s hr hwf
  unfold BMon.ok at hok
  obtain ⟨σ, hσ⟩ := Option.isSome_iff_exists.mp hok
  exact ⟨σ, hσ, C09q_holds ls s hr hwf ((settled_iff s).mp hset) σ hσ⟩

def qOk09 (ls : List BLabel) : Bool :=
  match monC09.run monC09.init ls with
  | some σ => σ.quiescentOk
  | none => false

def qOkS09 (ls : List BLabel) : Bool :=
  match monC09.run monC09.init ls with
  | some σ => σ.quiescentOkS
  | none => false

def isSettled (ls : List BLabel) : Bool :=
  match brun BrSt.init ls with
  | some s => s.settled
  | none => false

/-- two subscribers (one subscribes twice, with a re-used operation id), concurrent publications, an unsubscribe
    followed by a re-subscribe, a subscriber that terminates with a publication on its way; settled at the end -/
def c09qExample : List BLabel :=
  [ .bbegin 0 (.sub 1), .benq 0, .bproc, .bret 0, .bbegin 1 (.sub 2), .benq 1, .bret 1, .bproc,
    .bbegin 0 (.sub 1), .benq 0, .bret 0, .bproc,
    .bbegin 2 (.pub 5), .bbegin 3 (.pub 6), .benq 3, .benq 2, .bret 2, .bproc, .bproc, .bret 3,
    .deliver 1 6, .deliver 2 6, .deliver 1 5, .bbegin 4 (.unsub 1), .benq 4, .bproc, .bret 4,
    .bbegin 5 (.pub 7), .benq 5, .bproc, .bret 5, .deliver 2 5, .deliver 2 7,
    .bbegin 6 (.sub 1), .benq 6, .bproc, .bret 6, .bbegin 7 (.pub 8), .benq 7, .bret 7, .bproc,
    .deliver 1 8, .term 2 ]

/-- the hypotheses of `C09q_holds` are satisfiable by a non-trivial run ... -/
example : isSettled c09qExample = true ∧ wf09 c09qExample = true := by decide
/-- ... on which the check is not vacuous: some `(c, P)` is required (and was taken up) -/
example : qOk09 c09qExample = true ∧ qOkS09 c09qExample = true := by decide
example : (match monC09.run monC09.init c09qExample with
    | some σ => σ.ops.any (fun P => σ.required 1 P) && σ.ops.any (fun P => !σ.required 1 P && σ.requiredS 1 P)
    | none => false) = true := by decide

/-- the check rejects: a subscriber definitely subscribed before the publish never takes the publication up -/
example : qOk09 [ .bbegin 0 (.sub 1), .bret 0, .bbegin 1 (.pub 5), .bret 1 ] = false := by decide
/-- one of two subscribers is left out -/
example : qOk09 [ .bbegin 0 (.sub 1), .bret 0, .bbegin 1 (.sub 2), .bret 1, .bbegin 2 (.pub 5), .bret 2,
    .deliver 1 5 ] = false := by decide
/-- re-subscribed after an unsubscribe that returned: required again -/
example : qOk09 [ .bbegin 0 (.sub 1), .bret 0, .bbegin 1 (.unsub 1), .bret 1, .bbegin 2 (.sub 1), .bret 2,
    .bbegin 3 (.pub 5), .bret 3 ] = false := by decide
/-- excused: the subscriber terminated / the subscribe overlaps the publish / the publish has not returned -/
example : qOk09 [ .bbegin 0 (.sub 1), .bret 0, .bbegin 1 (.pub 5), .bret 1, .term 1 ] = true := by decide
example : qOk09 [ .bbegin 0 (.sub 1), .bbegin 1 (.pub 5), .bret 0, .bret 1 ] = true := by decide
example : qOk09 [ .bbegin 0 (.sub 1), .bret 0, .bbegin 1 (.pub 5) ] = true := by decide
/-- an unsubscribe after the publish returned excuses under `required`, not under `requiredS` -/
example : qOk09 [ .bbegin 0 (.sub 1), .bret 0, .bbegin 1 (.pub 5), .bret 1, .bbegin 2 (.unsub 1), .bret 2 ] = true ∧
    qOkS09 [ .bbegin 0 (.sub 1), .bret 0, .bbegin 1 (.pub 5), .bret 1, .bbegin 2 (.unsub 1), .bret 2 ] = false := by
  decide

/-! `mbox = []` and `flight = []` are needed: runs of the model that fail the check because ... -/
/-- ... the publication is still on its way (`flight ≠ []`) -/
example : (brun BrSt.init [ .bbegin 0 (.sub 1), .benq 0, .bproc, .bret 0, .bbegin 1 (.pub 5), .benq 1, .bproc,
      .bret 1 ]).isSome = true ∧
    qOk09 [ .bbegin 0 (.sub 1), .benq 0, .bproc, .bret 0, .bbegin 1 (.pub 5), .benq 1, .bproc, .bret 1 ] = false := by
  decide
/-- ... the broker has not handled the publish yet (`mbox ≠ []`; a publish returns once it is in the mailbox) -/
example : (brun BrSt.init [ .bbegin 0 (.sub 1), .benq 0, .bproc, .bret 0, .bbegin 1 (.pub 5), .benq 1,
      .bret 1 ]).isSome = true ∧
    qOk09 [ .bbegin 0 (.sub 1), .benq 0, .bproc, .bret 0, .bbegin 1 (.pub 5), .benq 1, .bret 1 ] = false := by
  decide

/-- `pend = []` is not needed (`C09qs_holds`): an unsubscribe and a publish that have begun and not yet entered the
    mailbox at the end of the run -/
example : (match brun BrSt.init [ .bbegin 0 (.sub 1), .benq 0, .bproc, .bret 0, .bbegin 1 (.pub 5), .benq 1, .bproc,
      .bret 1, .deliver 1 5, .bbegin 2 (.unsub 1), .bbegin 3 (.pub 6) ] with
    | some s => !s.pend.isEmpty && s.mbox.isEmpty && s.flight.isEmpty
    | none => false) = true ∧
    qOkS09 [ .bbegin 0 (.sub 1), .benq 0, .bproc, .bret 0, .bbegin 1 (.pub 5), .benq 1, .bproc,
      .bret 1, .deliver 1 5, .bbegin 2 (.unsub 1), .bbegin 3 (.pub 6) ] = true := by decide

end Hannibal
