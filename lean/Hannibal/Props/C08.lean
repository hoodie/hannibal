import Hannibal.Model.Registry
import Hannibal.Monitor.C08
namespace Hannibal

def WellWired08 (w : Wiring) : Prop := w.livenessQuery = .truthful ∧ w.alreadyRunningPolarity = true

instance (w : Wiring) : Decidable (WellWired08 w) := by unfold WellWired08; infer_instance

theorem rget_rdel (l : List (Nat × Nat)) (k k' : Nat) :
    rget (rdel l k) k' = if k' = k then none else rget l k' := by
  unfold rget rdel
  rw [List.find?_filter]
  by_cases h : k' = k
  · simp [h]
  · rw [if_neg h]
    congr 2; funext p
    by_cases hp : p.1 = k' <;> simp [hp, h]

theorem rget_rset (l : List (Nat × Nat)) (k v k' : Nat) :
    rget (rset l k v) k' = if k' = k then some v else rget l k' := by
  have := rget_rdel l k k'
  unfold rget rset at *
  by_cases h : k' = k
  · simp [h]
  · simpa [rdel, Ne.symm h, h] using this

structure C08Inv (s : RegSt) (σ : C08St) : Prop where
  reg : ∀ k, σ.spec.reg k = rget s.reg k
  dead : σ.spec.dead = s.dead
  pend : σ.pend = s.pend
  acted : σ.acted = s.acted

theorem live_eq {w : Wiring} (hw : WellWired08 w) {s : RegSt} {σ : C08St} (hi : C08Inv s σ) (k : Nat) :
    σ.spec.live k = s.lookupRunning w k := by
  unfold Spec08.live RegSt.lookupRunning Spec08.alive RegSt.runningQ RegSt.stoppedQ
  rw [hi.reg k, hw.1, hi.dead]

theorem alive_eq {w : Wiring} (hw : WellWired08 w) {s : RegSt} {σ : C08St} (hi : C08Inv s σ) (i : Nat) :
    σ.spec.alive i = s.runningQ w i := by
  unfold Spec08.alive RegSt.runningQ RegSt.stoppedQ
  rw [hw.1, hi.dead]

theorem inv_done {s : RegSt} {σ : C08St} (hi : C08Inv s σ) (o : Nat) (reg' : List (Nat × Nat)) (sp : Spec08) (r : RRes)
    (hreg : ∀ k, sp.reg k = rget reg' k) (hdead : sp.dead = s.dead) : C08Inv (s.finish o reg' r) (σ.done o sp r) := by
  refine ⟨hreg, hdead, ?_, ?_⟩
  · simp [C08St.done, RegSt.finish, hi.pend]
  · simp [C08St.done, RegSt.finish, hi.acted]

theorem C08Inv.reg_set {s : RegSt} {σ : C08St} (hi : C08Inv s σ) (k i : Nat) :
    ∀ k', (σ.spec.set k (some i)).reg k' = rget (rset s.reg k i) k' := fun k' => by
  simp only [Spec08.set, rget_rset, hi.reg]

theorem C08Inv.reg_del {s : RegSt} {σ : C08St} (hi : C08Inv s σ) (k : Nat) :
    ∀ k', (σ.spec.set k none).reg k' = rget (rdel s.reg k) k' := fun k' => by
  simp only [Spec08.set, rget_rdel, hi.reg]

theorem C08Inv.lock {s : RegSt} {σ : C08St} (h : C08Inv s σ) (l : Option Nat) : C08Inv { s with lock := l } σ :=
  ⟨h.reg, h.dead, h.pend, h.acted⟩

theorem c08_effect {w : Wiring} (hw : WellWired08 w) {s s' : RegSt} {σ : C08St} {o : Nat} {op : ROp}
    (hi : C08Inv s σ) (he : s.effect w o op = some s') :
    ∃ sp r, σ.spec.apply op = some (sp, r) ∧ C08Inv s' (σ.done o sp r) := by
  have hl := live_eq hw hi
  have same := fun r => inv_done hi o s.reg σ.spec r hi.reg hi.dead
  cases op <;> simp only [RegSt.effect, Spec08.apply, hl, hi.reg, hw.2, if_true] at he ⊢
  case fromRegistry k =>
    obtain ⟨i, h, rfl⟩ := Option.map_eq_some_iff.mp he
    exact ⟨_, _, by rw [h]; rfl, same _⟩
  case setup k =>
    obtain ⟨i, h, rfl⟩ := Option.map_eq_some_iff.mp he
    exact ⟨_, _, by rw [h]; rfl, same _⟩
  case register k i =>
    unfold RegSt.lookupRunning RegSt.runningQ
    cases hg : rget s.reg k with
    | none => cases hg ▸ he; exact ⟨_, _, rfl, inv_done hi o _ _ _ (hi.reg_set k i) hi.dead⟩
    | some j =>
      rw [hg] at he
      cases hst : s.stoppedQ w j <;> simp only [hst] at he <;> cases he <;> simp only [Option.filter, hst]
      · exact ⟨_, _, rfl, same _⟩
      · exact ⟨_, _, rfl, inv_done hi o _ _ _ (hi.reg_set k i) hi.dead⟩
  case replace k i => cases he; exact ⟨_, _, rfl, inv_done hi o _ _ _ (hi.reg_set k i) hi.dead⟩
  case unregister k => cases he; exact ⟨_, _, rfl, inv_done hi o _ _ _ (hi.reg_del k) hi.dead⟩
  case alreadyRunning k =>
    cases he
    exact ⟨_, _, rfl, funext (alive_eq hw hi) ▸ same _⟩
  case tryFrom k => cases he

theorem c08_step {w : Wiring} (hw : WellWired08 w) {s s' : RegSt} {σ : C08St} {l : RLabel}
    (hi : C08Inv s σ) (hs : rstep w s l = some s') : ∃ σ', monC08.step σ l = some σ' ∧ C08Inv s' σ' := by
  have hfp : σ.findPend = s.findPend := by unfold C08St.findPend RegSt.findPend; rw [hi.pend]
  have hfa : σ.findActed = s.findActed := by unfold C08St.findActed RegSt.findActed; rw [hi.acted]
  have hl := live_eq hw hi
  cases l with
  | rbegin o op =>
    simp only [rstep, monC08, hfp, hfa] at hs ⊢
    split at hs
    · cases hs
    · rename_i hc
      rw [if_neg hc]
      cases op <;> cases hs <;> exact ⟨_, rfl, hi.reg, hi.dead, by simp [hi.pend], hi.acted⟩
  | ract o =>
    simp only [rstep, monC08, hfp] at hs ⊢
    split at hs
    · cases hs
    · cases hp : s.findPend o <;> simp only [hp] at hs ⊢
      · cases hs
      · obtain ⟨sp, r, ha, hi'⟩ := c08_effect hw hi hs
        exact ⟨_, by rw [ha]; rfl, hi'⟩
  | rspawn o i =>
    simp only [rstep, monC08, hfp] at hs ⊢
    split at hs
    · cases hs
    · cases hp : s.findPend o with
      | none => simp only [hp] at hs; cases hs
      | some op =>
        have hdone := fun k r => (inv_done hi o _ _ r (hi.reg_set k i) hi.dead).lock (some o)
        cases op <;> simp only [hp] at hs ⊢ <;> try cases hs
        all_goals
          split at hs <;> cases hs
          rename_i hn
          exact ⟨_, by simp only [Spec08.spawn, hl, hn, if_true]; rfl, hdone _ _⟩
  | rret o r =>
    simp only [rstep, monC08, hfa] at hs ⊢
    split at hs <;> cases hs
    rename_i hf
    exact ⟨_, if_pos hf, hi.reg, hi.dead, hi.pend, by simp [hi.acted]⟩
  | rsync op r =>
    cases op <;> simp only [rstep, monC08, hl] at hs ⊢ <;> try cases hs
    -- `try_read` fails while a writer holds the lock; `None` is always allowed
    cases hlk : s.lock.isSome <;> simp only [hlk, Bool.false_eq_true, if_false, if_true] at hs <;>
      split at hs <;> cases hs <;> rename_i hr <;> exact ⟨σ, if_pos (by simp [hr]), hi⟩
  | term i => cases hs; exact ⟨_, rfl, hi.reg, by simp [hi.dead], hi.pend, hi.acted⟩

theorem c08_init : C08Inv RegSt.init monC08.init :=
  ⟨fun _ => rfl, rfl, rfl, rfl⟩

theorem c08_run {w : Wiring} (hw : WellWired08 w) {ls : List RLabel} {s s' : RegSt} {σ : C08St}
    (hi : C08Inv s σ) (hr : rrun w s ls = some s') : ∃ σ', monC08.run σ ls = some σ' ∧ C08Inv s' σ' := by
  fun_induction rrun w s ls generalizing σ with
  | case1 => cases hr; exact ⟨σ, rfl, hi⟩
  | case2 s l ls s1 hs ih =>
    obtain ⟨σ1, hm, hi1⟩ := c08_step hw hi hs
    simpa [RMon.run, hm] using ih hi1 hr
  | case3 => cases hr

/-- C08 (service registry: one live instance per type, spawned on demand, linearizable): if the registry
decides liveness from the termination latch itself and `already_running` maps the entry through
`running`, every run of the registry model - any number of tasks, types and instances, operations
begun, taking effect and returning in any interleaving with terminations - is accepted by `monC08`:
each operation takes effect exactly once between its begin and its return, the effects form a legal
history of the sequential specification `Spec08`, and each return value is the specification's. -/
theorem C08_holds (w : Wiring) (hw : WellWired08 w) (ls : List RLabel) (s : RegSt)
    (hr : rrun w RegSt.init ls = some s) : monC08.ok ls = true := by
  obtain ⟨σ', hm, _⟩ := c08_run hw c08_init hr
  simp [RMon.ok, hm]

/-! ### the specification says what the property says -/

/-- a lookup that does not spawn returns the registered instance, which is alive, and changes nothing -/
theorem spec_lookup (s s' : Spec08) (k i : Nat) (h : s.apply (.fromRegistry k) = some (s', .inst i)) :
    s' = s ∧ s.reg k = some i ∧ s.alive i = true := by
  simp only [Spec08.apply, Spec08.live] at h
  cases hr : s.reg k with
  | none => simp [hr] at h
  | some j =>
    cases ha : s.alive j <;> simp [hr, ha, Option.filter] at h
    obtain ⟨rfl, rfl⟩ := h
    exact ⟨rfl, rfl, ha⟩

theorem live_none_iff (s : Spec08) (k : Nat) :
    (s.live k).isNone = true ↔ ¬ ∃ j, s.reg k = some j ∧ s.alive j = true := by
  unfold Spec08.live
  rcases h : s.reg k with _ | j
  · simp
  · cases ha : s.alive j <;> simp [ha, Option.filter]

/-- a default instance is spawned exactly when no live instance is registered -/
theorem spec_spawn_iff (s : Spec08) (k i : Nat) :
    (s.spawn i (.fromRegistry k)).isSome = true ↔ ¬ ∃ j, s.reg k = some j ∧ s.alive j = true := by
  rw [← live_none_iff]
  simp only [Spec08.spawn]
  split <;> simp_all

/-- register succeeds exactly when no live instance is registered, and otherwise changes nothing -/
theorem spec_register (s : Spec08) (k i : Nat) :
    (∃ j, s.reg k = some j ∧ s.alive j = true) → s.apply (.register k i) = some (s, .stillRunning) := by
  rintro ⟨j, hr, ha⟩
  simp [Spec08.apply, Spec08.live, hr, ha, Option.filter]

theorem spec_register_ok (s : Spec08) (k i : Nat) (h : ¬ ∃ j, s.reg k = some j ∧ s.alive j = true) :
    s.apply (.register k i) = some (s.set k (some i), .registered (s.reg k)) := by
  simp only [Spec08.apply, Spec08.live]
  cases hr : s.reg k with
  | none => simp
  | some j =>
    cases ha : s.alive j
    · simp [ha, Option.filter]
    · exact absurd ⟨j, hr, ha⟩ h

/-- `already_running`: none / some false / some true for unregistered / terminated / alive -/
theorem spec_already_running (s : Spec08) (k : Nat) :
    s.apply (.alreadyRunning k) = some (s, .running (match s.reg k with
      | none => none
      | some j => some (s.alive j))) := by
  simp only [Spec08.apply]; cases s.reg k <;> rfl

/-- Non-vacuity: two concurrent lookups get the same instance, it terminates, the next lookup spawns a
    fresh one; handing out the dead instance, spawning twice and a wrong `already_running` are flagged. -/
def c08Example : List RLabel :=
  [ .rbegin 0 (.fromRegistry 1), .rbegin 1 (.fromRegistry 1), .rspawn 0 7, .rret 0 (.inst 7), .ract 1,
    .rret 1 (.inst 7), .rbegin 2 (.alreadyRunning 1), .ract 2, .rret 2 (.running (some true)), .term 7,
    .rsync (.tryFrom 1) (.prev none), .rbegin 3 (.alreadyRunning 1), .ract 3, .rret 3 (.running (some false)),
    .rbegin 4 (.fromRegistry 1), .rspawn 4 8, .rret 4 (.inst 8), .rbegin 5 (.register 1 9), .ract 5,
    .rret 5 .stillRunning ]
example : monC08.ok c08Example = true := by decide
example : monC08.ok [ .rbegin 0 (.fromRegistry 1), .rspawn 0 7, .rret 0 (.inst 7), .term 7,
    .rbegin 1 (.fromRegistry 1), .ract 1 ] = false := by decide
example : monC08.ok [ .rbegin 0 (.fromRegistry 1), .rbegin 1 (.fromRegistry 1), .rspawn 0 7, .rret 0 (.inst 7),
    .rspawn 1 8 ] = false := by decide
example : monC08.ok [ .rbegin 0 (.fromRegistry 1), .rspawn 0 7, .rret 0 (.inst 7), .rbegin 1 (.alreadyRunning 1),
    .ract 1, .rret 1 (.running (some false)) ] = false := by decide

end Hannibal
