import Hannibal.Proofs.C05Dead
import Hannibal.Proofs.C05Phase
import Hannibal.Proofs.Run
/-
  C05 (strong handles keep an actor alive, weak ones, the context and timers never do): for every wiring in
  which strong handle kinds own the channel closures and weak ones own nothing, every run of the actor
  model is accepted by `monC05`.
-/
namespace Hannibal
open AState

structure C05Inv (w : Wiring) (c : MonCtx) (s : AState) (σ : C05St) : Prop where
  hinv : HInv s σ.hold
  oinv : OInv s σ
  tinv : TInv s σ
  cfg : s.cfg = c.cfg
  strm : σ.streamEnded = s.streamEnded
  stopq : 0 < cntP isStopP s → σ.stopIssued = true
  /-- queued restart requests plus the one being served (`rb`) are within the monitor's `restartsPending` -/
  rst : loopAlive s.phase = true → cntP isRestartP s + rb s.phase ≤ σ.restartsPending
  leave : leavingPh s.phase = true →
    σ.stopIssued = true ∨ (s.cfg.stream = true ∧ s.streamEnded = true) ∨ Dead05 s

theorem pushN_stop_issues {l : Label} (h : 0 < pushN isStopP l) : issuesStop l = true := by
  cases l <;> simp [pushN, isStopP] at h <;> simp [issuesStop]
  case begin o h' k => cases k <;> simp [isStopKind] at h <;> rfl
  case restartReq h' ok => cases ok <;> simp at h
  case ctxRestart ok => cases ok <;> simp at h

theorem next05_restarts (c : MonCtx) (σ : C05St) (l : Label) (h : l ≠ .cbBegin .stopped) :
    (next05 c σ l).restartsPending = σ.restartsPending + pushN isRestartP l := by
  cases l <;> simp [next05, pushN, isRestartP]
  case restartReq h ok => cases ok <;> simp
  case ctxRestart ok => cases ok <;> simp

theorem strongHeld_false_of_dead {s : AState} {σ : C05St} (hh : σ.hold.handles = s.handles) (hd : Dead05 s) :
    σ.hold.strongHeld = false := by
  unfold HoldSt.strongHeld; rw [hh]; exact hd.noHolder.not_strong

theorem c05_step {w : Wiring} (hw : WellWired05 w) {c : MonCtx} {s s' : AState} {σ : C05St} {l : Label}
    (hi : C05Inv w c s σ) (hs : step w s l = some s') : bad05 c σ l = false ∧ C05Inv w c s' (next05 c σ l) := by
  have hcfg := step_cfg hs
  have hstrm := step_streamEnded hs
  have hmono : σ.stopIssued = true → (next05 c σ l).stopIssued = true := by
    intro h; simp [next05, h]
  have hph : (loopAlive s'.phase = true → cntP isRestartP s' + rb s'.phase ≤ (next05 c σ l).restartsPending) ∧
      (leavingPh s'.phase = true → (next05 c σ l).stopIssued = true ∨
        (s'.cfg.stream = true ∧ s'.streamEnded = true) ∨ Dead05 s') := by
    by_cases hex : l.isTau = true
    · cases l <;> first | (cases hex; done) | skip
      case tDeq =>
        obtain ⟨hph, e, rest, hq, hch, -, -, hcase⟩ := stepDeq_spec (show stepDeq s = some s' from hs)
        have h0 := hi.rst (by simp [hph, loopAlive])
        simp only [hph, rb] at h0
        have hcnt : cntP isRestartP s = cntP isRestartP s' + (if isRestartP e.pl then 1 else 0) := by
          simp only [cntP, hch, Chan.deq, hq, List.tail_cons, List.countP_cons]
        change (_ → _ ≤ σ.restartsPending) ∧ _
        rcases hcase with ⟨hpl, hp'⟩ | ⟨hpl, hp'⟩ | hp' <;> rw [hp']
        · refine ⟨fun h => by simp [loopAlive] at h, fun _ => .inl (hmono (hi.stopq ?_))⟩
          unfold cntP; rw [hq]; simp [hpl, isStopP]
        · refine ⟨fun _ => ?_, fun h => by simp [leavingPh] at h⟩
          rw [hpl] at hcnt; simp only [isRestartP, if_true] at hcnt
          simp only [rb]; omega
        · refine ⟨fun _ => ?_, fun h => by simp [leavingPh] at h⟩
          simp only [rb]; split at hcnt <;> omega
      case tChanEnd =>
        cases step_loop hs rfl with
        | chanEnd _ _ hsa =>
          exact ⟨fun h => by simp [loopAlive] at h, fun _ => .inr (.inr (dead_step hw (dead_of_not_alive hw hsa) hs))⟩
      case tStreamEnd =>
        cases step_loop hs rfl with
        | streamEnd _ hst he => exact ⟨fun h => by simp [loopAlive] at h, fun _ => .inr (.inl ⟨hst, he⟩)⟩
    · have hpf := step_phase_facts hs (by simpa using hex)
      refine ⟨fun halive => ?_, fun hleave => ?_⟩
      · obtain ⟨ha, hrb⟩ := hpf.1 halive
        have h0 := hi.rst ha
        have hc := step_cnt isRestartP (by simp [isRestartP]) (by simp [isRestartP]) (by simp [isRestartP])
          (by simp [isRestartP]) hs
        by_cases hst : l = .cbBegin .stopped
        · subst hst
          cases step_loop hs rfl with
          | stopped | stoppedFin => simp [loopAlive] at halive
          | stoppedRst hp =>
            simp only [hp, rb] at h0
            change cntP isRestartP s + 0 ≤ σ.restartsPending - 1
            omega
        · rw [next05_restarts c σ l hst]; omega
      · rcases hi.leave (hpf.2 hleave) with h | ⟨h1, h2⟩ | h
        · exact .inl (hmono h)
        · exact .inr (.inl ⟨by rw [hcfg]; exact h1, by rw [hstrm, h2]; rfl⟩)
        · exact .inr (.inr (dead_step hw h hs))
  have hinv' : C05Inv w c s' (next05 c σ l) := by
    refine ⟨hinv_step hi.hinv hs, oinv_step hi.oinv hs, tinv_step hi.tinv hs, by rw [hcfg]; exact hi.cfg, ?_, ?_,
      hph.1, hph.2⟩
    · rw [hstrm, ← hi.strm]; cases l <;> rfl
    · intro hpos
      have hc := step_cnt isStopP (by simp [isStopP]) (by simp [isStopP]) (by simp [isStopP]) (by simp [isStopP]) hs
      by_cases h0 : 0 < cntP isStopP s
      · exact hmono (hi.stopq h0)
      · have : 0 < pushN isStopP l := by omega
        simp [next05, pushN_stop_issues this]
  refine ⟨?_, hinv'⟩
  cases l <;> (try rfl)
  case upgrade h h' =>
    cases h' with
    | none => rfl
    | some h' => exact bad05_upgrade hw hi.hinv.handles hi.oinv hi.tinv hs
  case timerArm t due => exact bad05_timerArm hw hi.hinv.handles hi.oinv hi.tinv hs
  case cbBegin cb =>
    cases cb <;> (try rfl)
    case finished =>
      cases step_loop hs rfl with
      | finished hp =>
        simp only [bad05]
        rcases hi.leave (by simp [hp, leavingPh]) with h | ⟨_, h2⟩ | h
        · simp [h]
        · simp [hi.strm, h2]
        · simp [strongHeld_false_of_dead hi.hinv.handles h]
    case stopped =>
      simp only [bad05]
      have final : leavingPh s.phase = true → (σ.restartsPending == 0 && σ.hold.strongHeld && !σ.stopIssued &&
          !σ.failure && !(c.cfg.stream && σ.streamEnded)) = false := by
        intro hl
        rcases hi.leave hl with h | ⟨h1, h2⟩ | h
        · simp [h]
        · rw [hi.cfg] at h1; simp [hi.strm, h1, h2]
        · simp [strongHeld_false_of_dead hi.hinv.handles h]
      cases step_loop hs rfl with
      | stopped hp => exact final (by simp [hp, leavingPh])
      | stoppedFin hp => exact final (by simp [hp, leavingPh])
      | stoppedRst hp =>
        have := hi.rst (by simp [hp, loopAlive])
        simp only [hp, rb] at this
        have hne : σ.restartsPending ≠ 0 := by omega
        simp [hne]

theorem c05_init (w : Wiring) (c : MonCtx) : C05Inv w c (AState.init c.cfg c.h0 c.k0) (monC05 c).init := by
  refine ⟨⟨rfl, ?_⟩, ?_, ⟨?_, ?_, ?_, ?_⟩, rfl, rfl, ?_, ?_, ?_⟩
  · intro r hr; simp [AState.init] at hr
  · intro r hr; simp [AState.init] at hr
  · intro x hx; simp [AState.init] at hx
  · intro x hx; simp [AState.init] at hx
  · intro t ht; simp [monC05] at ht
  · simp [AState.init, timerIds]
  · intro h; simp [cntP, AState.init, Chan.init] at h
  · intro _; simp [cntP, AState.init, Chan.init, rb, monC05]
  · intro h; simp [AState.init, leavingPh] at h

/-- **C05 (who keeps an actor alive).** For every wiring in which the strong handle kinds own both channel
    closures and the weak kinds own nothing and must upgrade, and for every run of the actor model - all
    handle manipulations (clone, downgrade, upgrade, convert, drop, in any order), submissions, timers and
    restarts under every interleaving: the final `stopped` (and `finished`) of the actor begins only if a stop
    was requested, it failed, its stream ended, or no strong handle is left; upgrading a weak handle succeeds
    only while a strong holder exists; with no strong holder left no timer goes round again. -/
theorem C05_holds (w : Wiring) (hw : WellWired05 w) (c : MonCtx) (ls : List Label) (s : AState)
    (hr : run w (AState.init c.cfg c.h0 c.k0) ls = some s) : (monC05 c).ok ls = true :=
  ok_of_run_lift (monC05 c) w (C05Inv w c)
    (fun s s' σ l hi hs => by
      obtain ⟨hb, hi'⟩ := c05_step hw hi hs
      exact ⟨next05 c σ l, by simp [monC05, hb], hi'⟩)
    _ (c05_init w c) ls s hr

def c05Cfg : Cfg := { cap := none, strat := .only, timeout := none, failOnTimeout := false, stream := false }
def c05Ctx : MonCtx := { cfg := c05Cfg, h0 := 0, k0 := .addr, prompt := true }
/- Non-vacuity: the last strong handle is dropped, the mailbox is drained, the actor stops; a `stopped`
    while a strong handle exists and nobody asked for it, an upgrade with no strong holder, and a timer
    going round again with no strong holder are all flagged. -/
def c05Example : List Label :=
  [ .cbBegin .started, .ctxTimer 0 .interval 5, .cbEnd .started true, .timerArm 0 5, .mk 0 1 .weakAddr,
    .begin 0 0 (.send 7), .ret 0 .ok, .drop 0, .upgrade 1 none, .cbBegin (.handle 7), .cbEnd (.handle 7) true,
    .tChanEnd, .cbBegin .stopped, .cbEnd .stopped true, .taskDone, .time 5, .timerEnd 0 ]
example : (monC05 c05Ctx).ok c05Example = true := by decide
example : (monC05 c05Ctx).ok [ .cbBegin .started, .cbEnd .started true, .cbBegin .stopped ] = false := by decide
example : (monC05 c05Ctx).ok [ .cbBegin .started, .cbEnd .started true, .mk 0 1 .weakAddr, .drop 0,
    .upgrade 1 (some 2) ] = false := by decide
example : (monC05 c05Ctx).ok [ .cbBegin .started, .ctxTimer 0 .interval 5, .cbEnd .started true, .timerArm 0 5,
    .drop 0, .time 5, .timerArm 0 10 ] = false := by decide

end Hannibal
