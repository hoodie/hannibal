import Hannibal.Props.C15
/-
  C15 (`interval_with` timers): for every wiring in which each strong handle kind owns both halves of the
  channel, every run of the actor model is accepted by `monC15iw`: an `interval_with` timer of the running
  incarnation whose closure last ran while a strong handle was held does not end, unless the actor became
  quiet (a stop was issued, its stream ended, it failed or terminated).
  The closure's `fire` upgrades the timer's weak sender: with a strong handle held the upgrade succeeds and
  the timer task goes on (`sending`, then asleep again); it can then only be ended by an abort, and aborts
  happen at termination, failure (quiet) or in `refresh` (after `stopped`, which empties the table).
-/
namespace Hannibal
open AState

def quietLabel (c : MonCtx) : Label → Bool
  | .stopReq _ _ | .ctxStop _ | .streamEnd | .cbBegin .finished
  | .begin _ _ .halt | .begin _ _ .tryHalt | .begin _ _ .consume => true
  | .cbAbandon _ => c.cfg.failOnTimeout
  | l => l.isFailure || l.terminates

def bad15iw (σ : C15iwSt) (l : Label) : Bool :=
  !σ.quiet && (match l with
    | .timerEnd t => lookup t σ.timers == some .intervalWith && lookup t σ.heldAtFire == some true
    | _ => false)

def next15iw (c : MonCtx) (σ : C15iwSt) (l : Label) : C15iwSt :=
  { hold := σ.hold.step l
    quiet := if quietLabel c l then true else σ.quiet
    timers := (match l with
      | .ctxTimer t k _ => (t, k) :: σ.timers
      | .cbBegin .stopped | .cbEnd .stopped _ => []
      | _ => σ.timers)
    heldAtFire := (match l with
      | .fire t _ => (t, σ.hold.strongHeld) :: σ.heldAtFire
      | _ => σ.heldAtFire) }

theorem mon15iw_eq (c : MonCtx) (σ : C15iwSt) (l : Label) :
    (monC15iw c).step σ l = if bad15iw σ l then none else some (next15iw c σ l) := by
  cases l <;> first | rfl | skip
  case begin o h k => cases k <;> rfl
  case cbBegin cb => cases cb <;> rfl
  case cbEnd cb ok => cases cb <;> cases ok <;> rfl
  case cbAbandon cb =>
    cases hf : c.cfg.failOnTimeout <;> simp only [monC15iw, bad15iw, next15iw, quietLabel, hf] <;> rfl

structure C15iwInv (s : AState) (σ : C15iwSt) : Prop where
  h : HInv s σ.hold
  rx : RxInv s
  done : s.isDone = true → σ.quiet = true
  tim : σ.quiet = false → TimOk .intervalWith s σ.timers (fun t => lookup t σ.heldAtFire = some true)

theorem quietLabel_of_terminates (c : MonCtx) {l : Label} (h : l.terminates = true) : quietLabel c l = true := by
  cases l <;> first | rfl | cases h

theorem c15iw_step (w : Wiring) (hw : WellWired15 w) (c : MonCtx) {s s' : AState} {σ : C15iwSt} {l : Label}
    (hi : C15iwInv s σ) (hs : step w s l = some s') :
    ∃ σ', (monC15iw c).step σ l = some σ' ∧ C15iwInv s' σ' := by
  obtain ⟨hd1, hd2⟩ := step_isDone w hs
  have hbad : bad15iw σ l = false := by
    cases l <;> first | exact Bool.and_false _ | skip
    case timerEnd t =>
      show (!σ.quiet && (lookup t σ.timers == some .intervalWith && lookup t σ.heldAtFire == some true)) = false
      cases hq : σ.quiet
      case true => rfl
      cases hl : lookup t σ.timers == some .intervalWith
      case false => rfl
      cases hh : lookup t σ.heldAtFire == some true
      case false => rfl
      -- an `interval_with` task that is not over goes back to sleep, it does not end
      exfalso
      obtain ⟨x, hx, -, hst⟩ := stepTimerEnd_cases hs
      obtain ⟨hk, hnd⟩ := hi.tim hq t (beq_iff_eq.mp hl) x hx
      rcases hst with h | h | ⟨due, -, hk', -⟩ | ⟨-, hk', -⟩
      · exact hnd (beq_iff_eq.mp hh) (.inl h)
      · exact hnd (beq_iff_eq.mp hh) (.inr (.inl h))
      · rw [hk] at hk'; cases hk'
      · rw [hk] at hk'; cases hk'
  have hdone : s'.isDone = true → (next15iw c σ l).quiet = true := by
    intro hd
    show (if quietLabel c l then true else σ.quiet) = true
    cases ht : l.terminates
    · rw [hi.done (hd2 ht ▸ hd)]; split <;> rfl
    · rw [quietLabel_of_terminates c ht]; rfl
  refine ⟨next15iw c σ l, by rw [mon15iw_eq, hbad]; rfl, hinv_step hi.h hs, rxInv_step hs hi.rx, hdone,
    fun hq => ?_⟩
  replace hq : (if quietLabel c l then true else σ.quiet) = false := hq
  have hql : quietLabel c l = false := by
    cases h : quietLabel c l
    · rfl
    · rw [h] at hq; cases hq
  have hq0 : σ.quiet = false := by rw [hql] at hq; exact hq
  have h0 := hi.tim hq0
  have same : s'.timers = s.timers →
      TimOk .intervalWith s' σ.timers (fun t => lookup t σ.heldAtFire = some true) :=
    fun h => h0.mono h (fun _ h => h) (fun _ h => h)
  cases l
  case ctxTimer t0 k d => obtain ⟨-, hfr, rfl⟩ := stepCtxTimer_cases hs; exact h0.add hfr
  case timerArm t0 due =>
    obtain ⟨x, -, -, ⟨-, rfl⟩ | ⟨old, -, -, -, -, -, rfl⟩ | ⟨-, -, -, rfl⟩⟩ := stepTimerArm_cases hs <;>
      exact h0.set _ rfl t0 _ _ (fun _ _ h => h) (fun _ _ _ _ _ => ⟨nofun, nofun, nofun⟩)
  case timerEnd t0 =>
    -- the monitor did not object: the obligation does not apply to this timer
    obtain ⟨x, -, rfl, -⟩ := stepTimerEnd_cases hs
    refine h0.set _ rfl t0 _ _ (fun _ _ h => h)
      (fun hl _ _ _ (hp : lookup t0 σ.heldAtFire = some true) => ?_)
    have hb : (!σ.quiet && (lookup t0 σ.timers == some .intervalWith && lookup t0 σ.heldAtFire == some true))
        = false := hbad
    rw [hq0, hl, hp] at hb
    cases hb
  case fire t0 m =>
    -- the closure ran with a strong handle held: the upgrade of the timer's weak sender succeeded
    have hup : σ.hold.strongHeld = true → (s.reqOk w (w.upgradeReq .weakSender) && s.chan.rx) = true := by
      intro hh
      unfold HoldSt.strongHeld at hh
      rw [hi.h.handles] at hh
      rw [reqOk_of_strong hw hh]
      rcases hi.rx with h | h
      · rw [hi.done h] at hq0; cases hq0
      · rw [h]; rfl
    have hP : ∀ t, t ≠ t0 → lookup t ((t0, σ.hold.strongHeld) :: σ.heldAtFire) = some true →
        lookup t σ.heldAtFire = some true := fun t ht h => by rwa [lookup_cons_ne (Ne.symm ht)] at h
    obtain ⟨x, due, hx, -, -, hc⟩ := stepFire_cases hs
    obtain ⟨hk, -, rfl⟩ | ⟨n, -, -, ⟨-, -, rfl⟩ | ⟨hno, rfl⟩⟩ := hc
    · refine h0.set _ rfl t0 _ _ hP (fun _ x0 hx0 hk0 _ => ?_)
      obtain rfl := Option.some.inj (hx.symm.trans hx0)
      rw [hk] at hk0; cases hk0
    · exact h0.set _ rfl t0 _ _ hP (fun _ _ _ _ _ => ⟨nofun, nofun, nofun⟩)
    · refine h0.set _ rfl t0 _ _ hP
        (fun _ _ _ _ (hp : lookup t0 ((t0, σ.hold.strongHeld) :: σ.heldAtFire) = some true) => ?_)
      rw [lookup_cons_eq] at hp
      rw [hup (Option.some.inj hp)] at hno; cases hno
  case cbBegin cb => cases cb <;> first | exact same (step_timers_same hs rfl) | exact .nil
  case cbEnd cb ok => cases cb <;> first | exact same (step_timers_same hs rfl) | exact .nil
  case cancel | taskPanic | taskDone => cases hql
  all_goals exact same (step_timers_same hs rfl)

theorem c15iw_init (c : MonCtx) : C15iwInv (AState.init c.cfg c.h0 c.k0) (monC15iw c).init :=
  ⟨⟨rfl, nofun⟩, rxInv_init _ _ _, nofun, fun _ => .nil⟩

/-- **C15 (`interval_with`).** With every strong handle kind owning both halves of the channel, in every run
    of the model an `interval_with` timer of the running incarnation whose closure last ran while a strong
    handle was held does not end unless a stop was issued, the stream ended, or the actor failed or
    terminated. -/
theorem C15iw_holds (w : Wiring) (hw : WellWired15 w) (c : MonCtx) (ls : List Label) (s : AState)
    (hr : run w (AState.init c.cfg c.h0 c.k0) ls = some s) : (monC15iw c).ok ls = true :=
  ok_of_run_lift (monC15iw c) w C15iwInv (fun _ _ _ _ hi hs => c15iw_step w hw c hi hs) _ (c15iw_init c) ls s hr

def c15iwCfg : Cfg := { cap := none, strat := .only, timeout := none, failOnTimeout := false, stream := false }
def c15iwCtx : MonCtx := { cfg := c15iwCfg, h0 := 0, k0 := .addr, prompt := true }

/-- an `interval_with` timer fires twice while the address is held (and goes on), then the address is
    dropped: the next closure run finds nobody to send to and the timer ends -/
def c15iwExample : List Label :=
  [ .cbBegin .started, .ctxTimer 1 .intervalWith 5, .cbEnd .started true, .timerArm 1 5, .time 5,
    .fire 1 (some 7), .timerArm 1 10, .cbBegin (.handle 7), .cbEnd (.handle 7) true, .time 10,
    .fire 1 (some 8), .timerArm 1 15, .cbBegin (.handle 8), .cbEnd (.handle 8) true, .drop 0, .time 15,
    .fire 1 (some 9), .timerEnd 1 ]
example : (monC15iw c15iwCtx).ok c15iwExample = true := by decide

/-- rejected: the timer ends although its closure just ran with the address held -/
example : (monC15iw c15iwCtx).ok (c15iwExample.take 11 ++ [ .timerEnd 1 ]) = false := by decide
/-- rejected: the same after the address was dropped *after* the closure ran -/
example : (monC15iw c15iwCtx).ok (c15iwExample.take 11 ++ [ .drop 0, .timerEnd 1 ]) = false := by decide
/-- accepted: a stop request makes the actor quiet -/
example : (monC15iw c15iwCtx).ok (c15iwExample.take 14 ++
    [ .stopReq 0 true, .tDeq, .cbBegin .stopped, .cbEnd .stopped true, .taskDone, .timerEnd 1 ]) = true := by decide

/-- Under the wiring in which `Sender` owns only the waiting half the property fails: only a Sender is
    left when the closure runs, the upgrade of the timer's weak sender fails and the timer ends. -/
def c15iwWitness : List Label :=
  [ .mk 0 1 .sender, .drop 0, .cbBegin .started, .ctxTimer 1 .intervalWith 5, .cbEnd .started true,
    .timerArm 1 5, .time 5, .fire 1 (some 7), .timerEnd 1 ]
def senderTxOnly (w : Wiring) : Wiring :=
  { w with holds := fun k => if k = .sender then [.tx] else w.holds k }
example : (monC15iw c15iwCtx).ok c15iwWitness = false := by decide

end Hannibal
