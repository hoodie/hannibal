import Hannibal.Proofs.C05DInvQ
/-
  C05, drain completeness for calls whose future was dropped (`Monitor/C05D.lean`).

  `C05d_holds`: for every wiring in which the strong handle kinds own the channel closures and the weak ones own
  nothing and must upgrade (`WellWired05`, the hypothesis of `C05q_holds`), every run of the actor model in which the
  client only drops the future of an operation whose submission went through (`drun`: the guarded step plus
  `AState.cdropOk`) and whose labels carry fresh message numbers and fresh operation ids (`wf01`) is accepted by
  `monC05d`:
    (q) at a `quiescent` label, if the handle events of the trace leave no strong handle, nobody asked the actor to
        stop, it has not failed and it is not a stream-attached actor whose stream ended, then the message of every
        call whose future was dropped has been handled;
    (f) when the handler of a message begins, every message of a dropped call that was submitted before it has been
        handled; and when the future of a call is dropped, no message submitted after the call's has been handled
        unless the call's has.
  `C05df_holds`: clause (f) alone (`monC05df`) holds for every wiring.
  `monC05d_split` (`Proofs/C05DOrder.lean`): `monC05d` accepts a trace iff `monC05df` and `monC05dq` do.
-/
namespace Hannibal
open AState

/-- **C05, drain completeness for dropped calls.**  For every wiring in which the strong handle kinds own both
    channel closures and the weak kinds own nothing and must upgrade, every `drun` of the actor model (guarded run in
    which a `cdrop` only drops the future of an operation whose submission went through) whose trace never re-uses
    a message number or an operation id is accepted by `monC05d`: the message of a call whose future the client
    dropped is never skipped (nothing submitted after it is handled while it has not been handled), and whenever
    the run reaches quiescence with no strong handle left, no stop requested, no failure and (for a
    stream-attached actor) the stream not ended, it has been handled. -/
theorem C05d_holds (w : Wiring) (hw : WellWired05 w) (c : MonCtx) (ls : List Label) (s : AState)
    (hr : drun w (AState.init c.cfg c.h0 c.k0) ls = some s) (hwf : wf01 ls = true) : (monC05d c).ok ls = true :=
  ok_of_drun_lift_wf (monC05d c) monWf01 w (fun s σ g => ∃ σ1 σ5 σ2, Q05d w c s σ σ1 g σ5 σ2)
    (fun s s' σ g g' l ⟨σ1, σ5, σ2, hi⟩ hs hok hws => by
      obtain ⟨hg, rfl⟩ := monWf01_step hws
      obtain ⟨hb, hi'⟩ := q05d_step hw c hi hs hg hok
      exact ⟨_, by simp [monC05d, hb], _, _, _, hi'⟩)
    _ ⟨_, _, _, q05d_init w c⟩ ls s hr hwf

/-- clause (f) (a dropped call's message is never skipped) holds for every wiring -/
theorem C05df_holds (w : Wiring) (c : MonCtx) (ls : List Label) (s : AState)
    (hr : drun w (AState.init c.cfg c.h0 c.k0) ls = some s) (hwf : wf01 ls = true) : (monC05df c).ok ls = true :=
  ok_of_drun_lift_wf (monC05df c) monWf01 w (fun s σ g => ∃ σ1, F05d s σ σ1 g)
    (fun s s' σ g g' l ⟨σ1, hi⟩ hs hok hws => by
      obtain ⟨hg, rfl⟩ := monWf01_step hws
      obtain ⟨hb, hi'⟩ := f05d_step w c hi hs hg hok
      exact ⟨_, by simp [monC05df, hb], _, hi'⟩)
    _ ⟨_, f05d_init c⟩ ls s hr hwf

/-- clause (q) (by quiescence a dropped call's message has been handled) -/
theorem C05dq_holds (w : Wiring) (hw : WellWired05 w) (c : MonCtx) (ls : List Label) (s : AState)
    (hr : drun w (AState.init c.cfg c.h0 c.k0) ls = some s) (hwf : wf01 ls = true) : (monC05dq c).ok ls = true := by
  have h := C05d_holds w hw c ls s hr hwf
  rw [monC05d_split] at h
  simp only [Bool.and_eq_true] at h
  exact h.2

/-! ### non-vacuity (the monitor alone; the runs of today's wiring are in `Props/C05DCurrent.lean`) -/

/-- a call is submitted while the actor is busy, its future is dropped, then the last strong handle is dropped:
    the actor still handles the call's message, then stops gracefully -/
def c05dExample : List Label :=
  [ .cbBegin .started, .cbEnd .started true,
    .begin 0 0 (.send 1), .ret 0 .ok, .cbBegin (.handle 1),
    .begin 1 0 (.call 2), .cdrop 1, .drop 0,
    .cbEnd (.handle 1) true, .cbBegin (.handle 2), .cbEnd (.handle 2) true,
    .tChanEnd, .cbBegin .stopped, .cbEnd .stopped true, .taskDone, .quiescent [] ]

example : (monC05d c05Ctx).ok c05dExample = true := by decide
example : wf01 c05dExample = true := by decide

/-- (q) the dropped call's message is never handled although the actor drained and stopped for lack of holders -/
example : (monC05d c05Ctx).ok [ .cbBegin .started, .cbEnd .started true, .begin 0 0 (.call 5), .cdrop 0, .drop 0,
    .tChanEnd, .cbBegin .stopped, .cbEnd .stopped true, .taskDone, .quiescent [] ] = false := by decide
/-- (f) the dropped call's message 5 is skipped: 6, submitted after it, is handled first -/
example : (monC05d c05Ctx).ok [ .cbBegin .started, .cbEnd .started true, .begin 0 0 (.call 5), .begin 1 0 (.send 6),
    .cdrop 0, .cbBegin (.handle 6) ] = false := by decide
/-- (f) the same, the drop coming after the later message was handled -/
example : (monC05d c05Ctx).ok [ .cbBegin .started, .cbEnd .started true, .begin 0 0 (.call 5), .begin 1 0 (.send 6),
    .cbBegin (.handle 6), .cbEnd (.handle 6) true, .cdrop 0 ] = false := by decide
/-- the clause monitors agree -/
example : (monC05df c05Ctx).ok [ .cbBegin .started, .cbEnd .started true, .begin 0 0 (.call 5), .begin 1 0 (.send 6),
    .cdrop 0, .cbBegin (.handle 6) ] = false := by decide
example : (monC05dq c05Ctx).ok [ .cbBegin .started, .cbEnd .started true, .begin 0 0 (.call 5), .cdrop 0, .drop 0,
    .tChanEnd, .cbBegin .stopped, .cbEnd .stopped true, .taskDone, .quiescent [] ] = false := by decide

end Hannibal
