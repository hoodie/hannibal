import Hannibal.Proofs.C04QMon
import Hannibal.Proofs.C05QInv
import Hannibal.Props.C02
/-
  C05 (2) (the last strong handle is dropped: drain, then stop gracefully): for every wiring in which the
  strong handle kinds own the channel closures and the weak ones own nothing, every run of the actor model
  whose `begin` labels carry pairwise distinct operation ids is accepted by `monC05q`:

    at a `quiescent` label, if the handle events of the trace leave no strong handle, nobody asked the actor
    to stop, it has not failed and it is not a stream-attached actor whose stream ended, then
      * the actor's task has ended (`taskDone` / `taskPanic` / `cancel` occurred),
      * gracefully: the last callback event was the completed `stopped`,
      * and every message whose `send` / `try_send` was acknowledged with `Ok` has been handled.

  `monC05q` is `monC05qOrig` (the clause as first written) in guard / update form: equal step functions
  (`monC05q_orig_step`), hence equal verdicts (`monC05q_orig`).
-/
namespace Hannibal
open AState

/-- Label by label both step functions evaluate to the same record, up to `b || false` where the update form
    spells out that the label does not set a flag; at `quiescent` the nested guard becomes one. -/
theorem monC05q_orig_step (c : MonCtx) (st : C05qSt) (l : Label) :
    (monC05qOrig c).step st l = (monC05q c).step st l := by
  obtain ⟨hold, stop, fail, ended, term, grace, sends, sentOk, handled⟩ := st
  cases l
  case begin o h k => cases ended <;> cases k <;> rfl
  case ret o r =>
    cases ended <;> cases r <;> try rfl
    all_goals (dsimp only [monC05qOrig, monC05q, next05q]; cases lookup o sends <;> rfl)
  case cbBegin cb => cases ended <;> cases cb <;> rfl
  case cbEnd cb ok => cases ended <;> cases cb <;> cases ok <;> rfl
  case quiescent p =>
    dsimp only [monC05qOrig, monC05q, bad05q, next05q, Label.isFailure, Label.terminates, issuesStop, HoldSt.step]
    simp only [Bool.or_false]
    exact ite_guard _ _ _
  all_goals cases ended <;> rfl

theorem monC05q_orig (c : MonCtx) (ls : List Label) : (monC05qOrig c).ok ls = (monC05q c).ok ls := by
  have : monC05qOrig c = monC05q c := by
    unfold monC05qOrig monC05q
    congr 1
    funext st l
    exact monC05q_orig_step c st l
  rw [this]

theorem quiet_done {w : Wiring} (hw : WellWired05 w) {c : MonCtx} {s : AState} {σ : C05qSt} {σ5 : C05St}
    {σ2 : C02St} (hi : C05qInv w c s σ σ5 σ2) (hq : s.quiet w = true) (hsh : σ.hold.strongHeld = false)
    (hex : excused c σ = false) : s.phase = .done true := by
  have hweak : s.handles.any (fun p => p.2.strong) = false := by
    rw [← hi.i5.hinv.handles, ← hi.hold]; exact hsh
  have hq' := hq
  unfold quiet at hq'
  simp only [Bool.and_eq_true] at hq'
  obtain ⟨⟨hph, -⟩, -⟩ := hq'
  cases hp : s.phase <;> simp [hp] at hph
  case idle => exact (idle_quiet_absurd hw hi.i2 hq hp hweak).elim
  case done g =>
    cases g
    · have := hi.failPh (by simp [hp, failing])
      simp [excused, this] at hex
    · rfl

theorem guard05q {c : MonCtx} {σ : C05qSt} {b : Bool}
    (h : (!σ.hold.strongHeld && !σ.failure && !σ.stopIssued && !(c.cfg.stream && σ.streamEnded) && b) = true) :
    σ.hold.strongHeld = false ∧ excused c σ = false ∧ b = true := by
  simp only [Bool.and_eq_true, Bool.not_eq_true'] at h
  obtain ⟨⟨⟨⟨hsh, hfl⟩, hst⟩, hse⟩, hb⟩ := h
  exact ⟨hsh, by simp [excused, hfl, hst, hse], hb⟩

theorem quiescent_ok {w : Wiring} (hw : WellWired05 w) {c : MonCtx} {s s' : AState} {σ : C05qSt} {σ5 : C05St}
    {σ2 : C02St} {pend : List Nat} (hi : C05qInv w c s σ σ5 σ2) (hs : s.stepQuiescent w pend = some s') :
    bad05q c σ (.quiescent pend) = false := by
  cases hb : bad05q c σ (.quiescent pend)
  · rfl
  · obtain ⟨hsh, hex, hconc⟩ := guard05q hb
    have hp := quiet_done hw hi (stepQuiescent_cases hs).1 hsh hex
    have hg : σ.graceful = true := by rw [hi.grace]; exact hi.i2.grace (by simp [hp, gracefulEnd])
    have ht : σ.terminated = true := by rw [hi.term, hi.i2.term]; simp [isDone, hp]
    have hall : σ.sentOk.all (fun m => σ.handled.contains m) = true := by
      rw [List.all_eq_true]
      intro m hm
      rcases hi.acked hex m hm with h | ⟨h, -⟩
      · simpa using h
      · simp [hp, pastLoop] at h
    rw [hg, ht, hall] at hconc
    cases hconc

theorem c05q_step {w : Wiring} (hw : WellWired05 w) {c : MonCtx} {s s' : AState} {σ : C05qSt} {σ5 : C05St}
    {σ2 : C02St} {l : Label} (hi : C05qInv w c s σ σ5 σ2) (hf : freshFor σ2 l) (hs : step w s l = some s') :
    bad05q c σ l = false ∧ C05qInv w c s' (next05q c σ l) (next05 c σ5 l) (next02 σ2 l) := by
  have hbad : bad05q c σ l = false := by
    cases l <;> first | rfl | exact quiescent_ok hw hi hs
  refine ⟨hbad, (c05_step hw hi.i5 hs).2, lite02_step w hi.i2 hf hs, ?_, ?_, ?_, ?_, ?_, sends_step c hf hi.sends,
    failPh_step hi.i5.cfg hs hi.failPh, past_dead hw hi hs, acked_step hi hs, live05q_step hw hi hs⟩
  · show σ.hold.step l = σ5.hold.step l
    rw [hi.hold]
  · show (σ.stopIssued || issuesStop l) = (σ5.stopIssued || issuesStop l)
    rw [hi.stop]
  · show (σ.streamEnded || _) = (σ5.streamEnded || _)
    rw [hi.strm]
  · show (σ.terminated || l.terminates) = _
    rw [next02_terminated, hi.term]
    cases l.terminates <;> simp
  · rw [next02_graceful]
    simp only [next05q, hi.grace]
    cases l <;> try rfl
    rename_i cb ok
    cases cb <;> cases ok <;> rfl

/-- **C05 (2), drain-then-stop.** For every wiring in which the strong handle kinds own both channel closures
    and the weak kinds own nothing and must upgrade, every run of the actor model whose `begin` labels carry
    pairwise distinct operation ids is accepted by `monC05q`: whenever the run reaches quiescence with no
    strong handle left, no stop requested, no failure and (for a stream-attached actor) the stream not ended,
    the actor has terminated, gracefully (the last callback event is the completed `stopped`), and every
    message whose send was acknowledged has been handled. -/
theorem C05q_holds (w : Wiring) (hw : WellWired05 w) (c : MonCtx) (ls : List Label) (s : AState)
    (hr : run w (AState.init c.cfg c.h0 c.k0) ls = some s) (hfresh : opIdsFresh ls = true) :
    (monC05q c).ok ls = true :=
  ok_of_run_lift_wf (monC05q c) (monC02wf c) w
    (fun s σ seen => ∃ σ5 σ2, C05qInv w c s σ σ5 σ2 ∧ SeenOk σ2 seen)
    (fun s s' σ seen seen' l ⟨σ5, σ2, hi, hseen⟩ hs hws => by
      obtain ⟨hb, hi'⟩ := c05q_step hw hi (wf_fresh hseen hws) hs
      exact ⟨_, by simp [monC05q, hb], _, _, hi', wf_seen hseen hws⟩)
    _ ⟨_, _, c05q_init w c, seenOk_init⟩ ls s hr hfresh

/-- the same for the clause as first written -/
theorem C05qOrig_holds (w : Wiring) (hw : WellWired05 w) (c : MonCtx) (ls : List Label) (s : AState)
    (hr : run w (AState.init c.cfg c.h0 c.k0) ls = some s) (hfresh : opIdsFresh ls = true) :
    (monC05qOrig c).ok ls = true := by
  rw [monC05q_orig]; exact C05q_holds w hw c ls s hr hfresh

/-- the last strong handle is dropped with two acknowledged messages still queued: both are handled, then the
    actor stops gracefully; quiescence is reached twice (before the drop, parked on the open mailbox; after) -/
def c05qExample : List Label :=
  [ .cbBegin .started, .cbEnd .started true, .mk 0 1 .weakSender,
    .begin 0 0 (.send 7), .ret 0 .ok, .cbBegin (.handle 7), .cbEnd (.handle 7) true,
    .quiescent [],
    .begin 1 0 (.send 8), .begin 2 1 (.trySend 9), .ret 1 .ok, .ret 2 .ok, .drop 0,
    .cbBegin (.handle 8), .cbEnd (.handle 8) true, .cbBegin (.handle 9), .cbEnd (.handle 9) true,
    .tChanEnd, .cbBegin .stopped, .cbEnd .stopped true, .taskDone,
    .begin 3 1 (.trySend 10), .ret 3 (.err .alreadyStopped),
    .quiescent [] ]

example : (monC05q c05Ctx).ok c05qExample = true := by decide
example : opIdsFresh c05qExample = true := by decide

/-- still alive at quiescence although the last strong handle is gone -/
example : (monC05q c05Ctx).ok [ .cbBegin .started, .cbEnd .started true, .drop 0, .quiescent [] ] = false := by
  decide
/-- terminated, but an acknowledged message was never handled -/
example : (monC05q c05Ctx).ok [ .cbBegin .started, .cbEnd .started true, .begin 0 0 (.send 7), .ret 0 .ok,
    .drop 0, .tChanEnd, .cbBegin .stopped, .cbEnd .stopped true, .taskDone, .quiescent [] ] = false := by decide
/-- terminated without a `stopped` callback -/
example : (monC05q c05Ctx).ok [ .cbBegin .started, .cbEnd .started true, .drop 0, .tChanEnd, .taskDone,
    .quiescent [] ] = false := by decide

end Hannibal
