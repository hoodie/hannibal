import Hannibal.Monitor.C05D
/-
  C05 (drain completeness for dropped calls): list facts about `before05d` (the submission order kept by
  `monC05d`, newest first), and `monC05d` split into its two clauses.
-/
namespace Hannibal

theorem before05d_not_mem {order : List Nat} {m : Nat} (m' : Nat) (h : m ∉ order) : before05d order m m' = false := by
  unfold before05d
  cases hb : (List.dropWhile (fun x => x != m') order).tail.contains m
  · rfl
  · exfalso
    have h1 : m ∈ (List.dropWhile (fun x => x != m') order).tail := by simpa using hb
    exact h ((List.dropWhile_sublist _).subset (List.mem_of_mem_tail h1))

theorem before05d_not_mem' {order : List Nat} (m : Nat) {m' : Nat} (h : m' ∉ order) : before05d order m m' = false := by
  unfold before05d
  have : List.dropWhile (fun x => x != m') order = [] := by
    induction order with
    | nil => rfl
    | cons x xs ih =>
      have hne : (x != m') = true := by
        have : x ≠ m' := fun he => h (by simp [he])
        simpa using this
      simp only [List.dropWhile_cons, hne, if_true]
      exact ih (fun hm => h (List.mem_cons_of_mem _ hm))
  rw [this]; rfl

theorem before05d_cons_ne {order : List Nat} {x : Nat} (m : Nat) {m' : Nat} (h : x ≠ m') :
    before05d (x :: order) m m' = before05d order m m' := by
  unfold before05d
  have : (x != m') = true := by simpa using h
  simp only [List.dropWhile_cons, this, if_true]

theorem before05d_self {order : List Nat} (m : Nat) (h : order.Nodup) : before05d order m m = false := by
  induction order with
  | nil => rfl
  | cons x xs ih =>
    obtain ⟨hx, hxs⟩ := List.nodup_cons.mp h
    by_cases he : x = m
    · subst he
      unfold before05d
      have : (x != x) = false := by simp
      simp only [List.dropWhile_cons, this]
      simpa using hx
    · rw [before05d_cons_ne m he]; exact ih hxs

/-- clause (f): a dropped call's message is never skipped -/
def bad05df (st : C05dSt) : Label → Bool
  | .cbBegin (.handle m') => skipped05d st st.dropped m'
  | .cdrop o =>
    (match lookup o st.calls with
     | some m => !st.q.handled.contains m && st.q.handled.any (fun m' => before05d st.order m m')
     | none => false)
  | _ => false

/-- clause (q): by quiescence the dropped calls' messages have been handled -/
def bad05dq (c : MonCtx) (st : C05dSt) : Label → Bool
  | .quiescent _ =>
    !st.q.hold.strongHeld && !st.q.failure && !st.q.stopIssued && !(c.cfg.stream && st.q.streamEnded)
      && !(st.dropped.all (fun m => st.q.handled.contains m))
  | _ => false

theorem bad05d_split (c : MonCtx) (st : C05dSt) (l : Label) : bad05d c st l = (bad05df st l || bad05dq c st l) := by
  cases l
  case cbBegin cb => cases cb <;> simp [bad05d, bad05df, bad05dq]
  case cdrop o =>
    simp only [bad05d, bad05df, bad05dq, Bool.or_false]
    cases lookup o st.calls <;> rfl
  all_goals simp [bad05d, bad05df, bad05dq]

def monC05df (c : MonCtx) : Mon C05dSt where
  init := (monC05d c).init
  step st l := if bad05df st l then none else some (next05d c st l)

def monC05dq (c : MonCtx) : Mon C05dSt where
  init := (monC05d c).init
  step st l := if bad05dq c st l then none else some (next05d c st l)

theorem monC05d_split_run (c : MonCtx) : ∀ (ls : List Label) (st : C05dSt),
    ((monC05d c).run st ls).isSome = (((monC05df c).run st ls).isSome && ((monC05dq c).run st ls).isSome)
  | [], _ => rfl
  | l :: ls, st => by
    have e1 : (monC05d c).step st l = if bad05d c st l then none else some (next05d c st l) := rfl
    have e2 : (monC05df c).step st l = if bad05df st l then none else some (next05d c st l) := rfl
    have e3 : (monC05dq c).step st l = if bad05dq c st l then none else some (next05d c st l) := rfl
    simp only [Mon.run, e1, e2, e3, bad05d_split]
    cases h1 : bad05df st l <;> cases h2 : bad05dq c st l <;> simp
    · exact monC05d_split_run c ls _

theorem monC05d_split (c : MonCtx) (ls : List Label) :
    (monC05d c).ok ls = ((monC05df c).ok ls && (monC05dq c).ok ls) :=
  monC05d_split_run c ls _

end Hannibal
