import Hannibal.Proofs.C04QInv
import Hannibal.Proofs.C06Ops
import Hannibal.Proofs.Handles
import Hannibal.Monitor.C04P
/-
  Model facts behind C04 (drain barrier, pings): what one step does to the ping payloads in the mailbox, in
  particular to those waiting *ahead of the first stop request*, and to the operation table.
-/
namespace Hannibal
open AState

def pingNo04p : Payload → Option Nat
  | .ping o => some o
  | _ => none

def pingL04p (pl : Payload) : List Nat :=
  match pingNo04p pl with
  | some o => [o]
  | none => []

def qpings04p (q : List Entry) : List Nat := q.filterMap (fun e => pingNo04p e.pl)

def aheadP04p (q : List Entry) : List Nat := (q.takeWhile notStop).filterMap (fun e => pingNo04p e.pl)

@[simp] theorem aheadP04p_nil : aheadP04p [] = [] := rfl
@[simp] theorem qpings04p_nil : qpings04p [] = [] := rfl

theorem qpings04p_cons (e : Entry) (q : List Entry) : qpings04p (e :: q) = pingL04p e.pl ++ qpings04p q := by
  unfold qpings04p pingL04p
  rw [List.filterMap_cons]
  cases pingNo04p e.pl <;> simp

theorem qpings04p_snoc (q : List Entry) (e : Entry) : qpings04p (q ++ [e]) = qpings04p q ++ pingL04p e.pl := by
  unfold qpings04p pingL04p
  rw [List.filterMap_append]
  cases h : pingNo04p e.pl <;> simp [h]

/-- `alive'` says whether the loop can still take something out of the mailbox after the step -/
def PRel04p (l : Label) (q q' : List Entry) (alive' : Bool) : Prop :=
  (∀ o ∈ qpings04p q', o ∈ qpings04p q ∨ ∃ h, l = .begin o h .ping) ∧
  (alive' = true → ∀ o ∈ aheadP04p q', o ∈ aheadP04p q ∨ ((∃ h, l = .begin o h .ping) ∧ hasStop q = false))

theorem prel04p_dead {l : Label} {q q' : List Entry} (h : q' = []) : PRel04p l q q' false := by
  subst h; exact ⟨by simp, by simp⟩

theorem pingNo04p_payloadOf {o : Nat} {k : OpKind} (hk : k ≠ .ping) : pingNo04p (payloadOf o k) = none := by
  cases k <;> first | rfl | exact absurd rfl hk

theorem sends_ping {l : Label} {pl : Payload} {tok : Tok} {o : Nat} (hs : Submits l pl tok)
    (hp : pingNo04p pl = some o) : ∃ h, l = .begin o h .ping := by
  cases hs with
  | op o' h k hk hpl =>
    subst hpl
    cases k <;> first | cases hp | skip
    exact ⟨h, rfl⟩
  | _ => cases hp

theorem step_prel04p {w s l s'} (hs : step w s l = some s') :
    PRel04p l s.chan.queue s'.chan.queue (loopAlive s'.phase) := by
  have ht := step_qstep hs
  refine ⟨fun o ho => ?_, fun hal o ho => ?_⟩
  · rcases queue_mem_all ht ho with h | ⟨pl, tok, hsd, hpl⟩ | ⟨pl, m, -, hpl⟩
    · exact .inl h
    · exact .inr (sends_ping hsd hpl)
    · cases hpl
  · rcases queue_mem (hal ▸ ht) ho with h | ⟨pl, tok, hsd, hpl, hst⟩ | ⟨pl, m, -, hpl⟩
    · exact .inl h
    · exact .inr ⟨sends_ping hsd hpl, hst⟩
    · cases hpl

theorem stepDeq_ops04p {s s' : AState} (hs : stepDeq s = some s') :
    s.phase = .idle ∧
      (s'.ops = s.ops ∨
        ∃ o tok rest, s.chan.queue = { pl := .ping o, tok } :: rest ∧ s'.ops = s.ops.map (resolve (·.o == o) .pinged)) := by
  obtain ⟨⟨pl, tok⟩, rest, hp, hq, -, h⟩ := stepDeq_cases hs
  refine ⟨hp, ?_⟩
  rcases h with ⟨o, rfl, rfl⟩ | ⟨-, rfl⟩ | ⟨-, -, ⟨-, rfl⟩ | ⟨-, rfl⟩⟩
  · exact .inr ⟨o, tok, rest, hq, rfl⟩
  all_goals exact .inl rfl

theorem retExpect_ping_ok04p {s : AState} {rec : OpRec} (hk : rec.kind = .ping)
    (h : s.retExpect rec = some .ok) : rec.st = .pinged := by
  cases retExpect_row h with
  | pinged hst => exact hst
  | sent _ hs | fired _ hs => rw [hk] at hs; cases hs

end Hannibal
