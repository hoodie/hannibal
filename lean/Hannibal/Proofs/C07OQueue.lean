import Hannibal.Proofs.C07OMon
import Hannibal.Proofs.Handles
/-
  C07 (order): the mailbox as a list of payloads and the bookkeeping predicate `qOk` ("every queued client
  message sits behind exactly the restart requests that were accepted before it was submitted").
-/
namespace Hannibal
open AState

def AState.pls (s : AState) : List Payload := s.chan.queue.map (·.pl)

/-- `base` = incarnation that handles the head of the list; each queued restart request moves it on by one;
    after the whole list it is `acc + 1` -/
def qOk (exp : List (Nat × Nat)) (acc : Nat) : Nat → List Payload → Bool
  | base, [] => base == acc + 1
  | base, .restart :: q => qOk exp acc (base + 1) q
  | base, .msg m _ :: q =>
    (match lookup m exp with | some n => n + 1 == base | none => true) && qOk exp acc base q
  | base, _ :: q => qOk exp acc base q

/-- Behind a good queue the base is `acc + 1`, so what is put there is judged from that base on
    (`acc'` is the count of accepted requests afterwards). -/
theorem qOk_append {exp acc acc' r} : ∀ {base q}, qOk exp acc base q = true →
    qOk exp acc' (acc + 1) r = true → qOk exp acc' base (q ++ r) = true
  | base, [], h, hr => by
    simp only [qOk, beq_iff_eq] at h
    subst h; exact hr
  | base, p :: q, h, hr => by
    cases p <;> simp only [List.cons_append, qOk, Bool.and_eq_true] at h ⊢
    case msg => exact ⟨h.1, qOk_append h.2 hr⟩
    all_goals exact qOk_append h hr

theorem qOk_expect {exp acc m n} :
    ∀ {base q}, (∀ sl, Payload.msg m sl ∉ q) → qOk ((m, n) :: exp) acc base q = qOk exp acc base q
  | base, [], _ => rfl
  | base, p' :: q, h => by
    have hq : ∀ sl, Payload.msg m sl ∉ q := fun sl hh => h sl (List.mem_cons_of_mem _ hh)
    cases p' <;> simp only [qOk]
    case msg m' sl' =>
      have hne : m ≠ m' := by
        intro he; subst he; exact h sl' (List.mem_cons_self ..)
      rw [lookup_cons_ne hne, qOk_expect hq]
    all_goals exact qOk_expect hq

/-- expectations and queued messages only mention message numbers already seen, so that a fresh number has no
    expectation and is not queued -/
structure QInv07 (exp : List (Nat × Nat)) (acc base : Nat) (q : List Payload) (seen : List Nat) : Prop where
  ok : qOk exp acc base q = true
  f1 : ∀ m, (lookup m exp).isSome = true → m ∈ seen
  f2 : ∀ m sl, Payload.msg m sl ∈ q → m ∈ seen

namespace QInv07
variable {exp : List (Nat × Nat)} {acc acc' base base' n m : Nat} {q : List Payload} {seen : List Nat}
  {p : Payload} {sl : Option Nat}

theorem mono (h : QInv07 exp acc base q seen) (m : Nat) : QInv07 exp acc base q (m :: seen) :=
  ⟨h.ok, fun m' hm => .tail _ (h.f1 m' hm), fun m' sl hm => .tail _ (h.f2 m' sl hm)⟩

theorem lookup_fresh (h : QInv07 exp acc base q seen) (hm : m ∉ seen) : lookup m exp = none := by
  cases hl : lookup m exp with
  | none => rfl
  | some v => exact absurd (h.f1 m (by rw [hl]; rfl)) hm

theorem snoc (h : QInv07 exp acc base q seen) (hp : qOk exp acc' (acc + 1) [p] = true)
    (hs : ∀ m sl, p = .msg m sl → m ∈ seen) : QInv07 exp acc' base (q ++ [p]) seen := by
  refine ⟨qOk_append h.ok hp, h.f1, fun m sl hm => ?_⟩
  rcases List.mem_append.mp hm with hm | hm
  · exact h.f2 m sl hm
  · exact hs m sl (List.mem_singleton.mp hm).symm

/-- a message nobody expects anything of (timer, tick, external) -/
theorem snoc_fresh (h : QInv07 exp acc base q seen) (hm : m ∉ seen) :
    QInv07 exp acc base (q ++ [.msg m sl]) (m :: seen) :=
  (h.mono m).snoc (by simp [qOk, h.lookup_fresh hm]) fun m' _ he => by cases he; exact .head _

theorem expect (h : QInv07 exp acc base q seen) (hm : m ∉ seen) : QInv07 ((m, n) :: exp) acc base q (m :: seen) := by
  refine ⟨?_, fun m' hm' => ?_, fun m' sl hm' => .tail _ (h.f2 m' sl hm')⟩
  · rw [qOk_expect fun sl hq => hm (h.f2 m sl hq)]; exact h.ok
  · by_cases he : m = m'
    · subst he; exact .head _
    · rw [lookup_cons_ne he] at hm'; exact .tail _ (h.f1 m' hm')

theorem submit (h : QInv07 exp acc base q seen) (hm : m ∉ seen) :
    QInv07 ((m, acc) :: exp) acc base (q ++ [.msg m sl]) (m :: seen) :=
  (h.expect hm).snoc (by simp [qOk, lookup_cons_eq]) fun m' _ he => by cases he; exact .head _

theorem tail (h : QInv07 exp acc base (p :: q) seen) (hq : qOk exp acc base' q = true) : QInv07 exp acc base' q seen :=
  ⟨hq, h.f1, fun m sl hm => h.f2 m sl (.tail _ hm)⟩

/-- the head becomes a message with a fresh number (a tick or an external item reaches the loop) -/
theorem rename (h : QInv07 exp acc base (p :: q) seen) (hq : qOk exp acc base q = true) (hm : m ∉ seen) :
    QInv07 exp acc base (.msg m sl :: q) (m :: seen) := by
  refine ⟨by simp [qOk, h.lookup_fresh hm, hq], fun m' hm' => .tail _ (h.f1 m' hm'), fun m' sl' hm' => ?_⟩
  rcases List.mem_cons.mp hm' with he | hm'
  · cases he; exact .head _
  · exact .tail _ (h.f2 m' sl' (.tail _ hm'))

end QInv07

@[simp] theorem push_pls (s : AState) (pl path tok) : (s.push pl path tok).pls = s.pls ++ [pl] := by
  simp [pls]
@[simp] theorem addOp_pls (s : AState) (o h k st) : (s.addOp o h k st).pls = s.pls := rfl
@[simp] theorem setTimer_pls (s : AState) (t st) : (s.setTimer t st).pls = s.pls := rfl

variable {w : Wiring} {s s' : AState} {l : Label}

theorem pls_of_chan (h : s'.chan = s.chan) : s'.pls = s.pls := by unfold pls; rw [h]

theorem pls_enq {e} (h : s'.chan = s.chan.enq e) : s'.pls = s.pls ++ [e.pl] := by
  simp [AState.pls, h]

theorem pls_cons {e rest} (hq : s.chan.queue = e :: rest) : s.pls = e.pl :: rest.map (·.pl) := by
  simp [pls, hq]

theorem pls_deq (h : s'.chan = s.chan.deq) : s'.pls = s.pls.tail := by
  simp [pls, h, Chan.deq]

theorem pls_rename {pl pl' tok rest} (hq : s.chan.queue = { pl, tok } :: rest)
    (h : s'.chan = { s.chan with queue := { pl := pl', tok } :: rest }) :
    s.pls = pl :: rest.map (·.pl) ∧ s'.pls = pl' :: rest.map (·.pl) := by
  simp [pls, h, hq]

theorem payloadOf_cases07 {o : Nat} {k : OpKind} (hk : k ≠ .await ∧ k ≠ .join) :
    match k.msg? with
    | some m => ∃ sl, payloadOf o k = .msg m sl
    | none => payloadOf o k = .stop ∨ payloadOf o k = .ping o := by
  cases k <;> first | exact ⟨_, rfl⟩ | exact .inl rfl | exact .inr rfl | exact absurd rfl hk.1 | exact absurd rfl hk.2

/-- 1 while a `started` is still owed for the restart request (or the spawn) being served -/
def pend : Phase → Nat
  | .unstarted | .rstBegin | .rstStopping | .rstStopped _ => 1
  | _ => 0

def alive07 : Phase → Bool
  | .exiting _ | .done _ => false
  | _ => true

theorem step_alive07 (hs : step w s l = some s') (ha : alive07 s'.phase = true) : alive07 s.phase = true := by
  cases hl : l.isLoop
  · rwa [step_phase hs hl] at ha
  · cases step_loop hs hl <;> simp_all [alive07]

theorem step_failure (hs : step w s l = some s') (hl : l.isFailure = true) : alive07 s'.phase = false := by
  have hl' : l.isLoop = true := by cases l <;> first | rfl | cases hl
  cases step_loop hs hl' <;> first | rfl | cases hl

theorem loopStep_pend (h : LoopStep w s l s') (ha : alive07 s'.phase = true)
    (h1 : ∀ m, l ≠ .cbBegin (.handle m)) (h2 : l ≠ .tDeq) (σ : C07oSt) :
    s'.chan = s.chan ∧ (next07o σ l).inc + pend s'.phase = σ.inc + pend s.phase := by
  cases h <;> simp_all [alive07, pend, next07o]

end Hannibal
