import Hannibal.Proofs.C02Chan
import Hannibal.Proofs.Term
import Hannibal.Monitor.C02
import Hannibal.Props.C04
/-
  C02: the coupling between the actor model and the C02 monitor state, component by component.
-/
namespace Hannibal
open AState

@[simp] theorem next02_ops (σ : C02St) (l : Label) :
    (next02 σ l).ops = (match l with
      | .begin o _ k => (o, (k, σ.terminated)) :: σ.ops
      | _ => σ.ops) := by
  cases l <;> first | rfl | skip
  rename_i cb ok; cases cb <;> cases ok <;> rfl

@[simp] theorem next02_returned (σ : C02St) (l : Label) :
    (next02 σ l).returned = (match l with
      | .ret o _ => o :: σ.returned
      | _ => σ.returned) := by
  cases l <;> first | rfl | skip
  rename_i cb ok; cases cb <;> cases ok <;> rfl

@[simp] theorem next02_finishedOk (σ : C02St) (l : Label) :
    (next02 σ l).finishedOk = (match l with
      | .cbEnd (.handle m) true => m :: σ.finishedOk
      | _ => σ.finishedOk) := by
  cases l <;> first | rfl | skip
  rename_i cb ok; cases cb <;> cases ok <;> rfl

@[simp] theorem next02_terminated (σ : C02St) (l : Label) :
    (next02 σ l).terminated = (if l.terminates then true else σ.terminated) := by
  cases l <;> first | rfl | skip
  rename_i cb ok; cases cb <;> cases ok <;> rfl

@[simp] theorem next02_graceful (σ : C02St) (l : Label) :
    (next02 σ l).graceful = (match l with
      | .cbEnd .stopped true => true
      | .cbBegin _ => false
      | _ => σ.graceful) := by
  cases l <;> first | rfl | skip
  rename_i cb ok; cases cb <;> cases ok <;> rfl

theorem next02_graceful_other (σ : C02St) {l : Label} (hl : l.isLoop = false) :
    (next02 σ l).graceful = σ.graceful := by
  cases l <;> first | rfl | cases hl

/-- the state of a recorded operation fits its kind; an answer is for the operation's own message and
    the handler invocation that produced it completed -/
def stOk (fin : List Nat) (k : OpKind) : OpSt → Bool
  | .pending => !(k == .join || k == .consume)
  | .answered v => k.isCall && k.msg? == some v.m && fin.contains v.m
  | .pinged => k == .ping
  | .cancelled => k.isCall || k == .ping
  | .failed _ => !(k == .join || k == .await)
  | .joining | .joinNone => k == .join || k == .consume

/-- the states an operation begun after termination can be in -/
def lateSt (k : OpKind) : OpSt → Bool
  | .failed _ => true
  | .pending => k == .await
  | .joining | .joinNone => k == .join
  | _ => false

def opOk (σ : C02St) (r : OpRec) : Bool :=
  match lookup r.o σ.ops with
  | some (k, late) =>
    k == r.kind && !σ.returned.contains r.o && (!late || lateSt r.kind r.st) && stOk σ.finishedOk r.kind r.st
  | none => false

def plOk (σ : C02St) : Payload → Bool
  | .msg m (some o) =>
    (match lookup o σ.ops with
     | some (k, _) => k.isCall && k.msg? == some m
     | none => false)
  | .ping o =>
    (match lookup o σ.ops with
     | some (k, _) => k == .ping
     | none => false)
  | _ => true

def phaseOk (σ : C02St) : Phase → Bool
  | .handling (.handle m) (some o) _ => plOk σ (.msg m (some o))
  | .handling _ (some _) _ => false
  | _ => true

/-- freshness of the operation id of a `begin` (the well-formedness the theorem assumes of traces) -/
def freshFor (σ : C02St) : Label → Prop
  | .begin o _ _ => lookup o σ.ops = none
  | _ => True

theorem lookup_next02 {σ : C02St} {l : Label} (hf : freshFor σ l) {o : Nat} {v : OpKind × Bool}
    (h : lookup o σ.ops = some v) : lookup o (next02 σ l).ops = some v := by
  cases l <;> simp only [next02_ops] <;> try exact h
  rename_i o' h' k
  simp only [freshFor] at hf
  have hne : o' ≠ o := by intro he; subst he; simp [hf] at h
  simp [lookup, hne, h]

theorem plOk_msg {σ : C02St} {m o : Nat} :
    plOk σ (.msg m (some o)) = true ↔
      ∃ k late, lookup o σ.ops = some (k, late) ∧ k.isCall = true ∧ k.msg? = some m := by
  cases hl : lookup o σ.ops with
  | none => simp [plOk, hl]
  | some v => obtain ⟨k, late⟩ := v; simp [plOk, hl]

theorem plOk_ping {σ : C02St} {o : Nat} :
    plOk σ (.ping o) = true ↔ ∃ k late, lookup o σ.ops = some (k, late) ∧ k = .ping := by
  cases hl : lookup o σ.ops with
  | none => simp [plOk, hl]
  | some v => obtain ⟨k, late⟩ := v; simp [plOk, hl]

theorem plOk_next02 {σ : C02St} {l : Label} (hf : freshFor σ l) {pl : Payload} (h : plOk σ pl = true) :
    plOk (next02 σ l) pl = true := by
  cases pl with
  | msg m sl =>
    cases sl with
    | none => rfl
    | some o =>
      obtain ⟨k, late, hl, hk⟩ := plOk_msg.mp h
      exact plOk_msg.mpr ⟨k, late, lookup_next02 hf hl, hk⟩
  | ping o =>
    obtain ⟨k, late, hl, hk⟩ := plOk_ping.mp h
    exact plOk_ping.mpr ⟨k, late, lookup_next02 hf hl, hk⟩
  | _ => rfl

theorem phaseOk_next02 {σ : C02St} {l : Label} (hf : freshFor σ l) {p : Phase} (h : phaseOk σ p = true) :
    phaseOk (next02 σ l) p = true := by
  unfold phaseOk at h ⊢
  split
  · simp only at h; exact plOk_next02 hf h
  · simp_all
  · rfl

theorem grace_step (w : Wiring) {s s' : AState} {σ : C02St} {l : Label} (hs : step w s l = some s')
    (hi : gracefulEnd s.phase = true → σ.graceful = true) :
    gracefulEnd s'.phase = true → (next02 σ l).graceful = true := by
  cases hl : l.isLoop
  · rw [step_phase hs hl, next02_graceful_other σ hl]; exact hi
  · have h := step_loop hs hl
    clear hs
    cases h <;> simp_all [gracefulEnd]

theorem plOk_of_noslot (σ : C02St) {pl : Payload} (h : slotOf pl = none) : plOk σ pl = true := by
  cases pl <;> first | rfl | skip
  · rename_i m sl; cases sl <;> first | rfl | cases h
  · cases h

theorem phaseOk_handling {σ : C02St} {cb : Cb} {o : Nat} {dl : Option Nat}
    (h : phaseOk σ (.handling cb (some o) dl) = true) : ∃ m, cb = .handle m ∧ plOk σ (.msg m (some o)) = true := by
  cases cb <;> first | exact ⟨_, rfl, h⟩ | cases h

theorem plOk_begin (σ : C02St) (o h : Nat) (k : OpKind) (pl : Payload) (hpl : planPl o k = some pl) :
    plOk (next02 σ (.begin o h k)) pl = true := by
  cases k <;> simp [planPl] at hpl <;> subst hpl <;>
    simp [plOk, lookup, OpKind.isCall, OpKind.msg?]

theorem qinv02_step {w : Wiring} {s s' : AState} {σ : C02St} {l : Label} (hf : freshFor σ l)
    (hs : step w s l = some s') (hq : ∀ e ∈ s.chan.queue, plOk σ e.pl = true)
    (hp : phaseOk σ s.phase = true) :
    (∀ e ∈ s'.chan.queue, plOk (next02 σ l) e.pl = true) ∧ phaseOk (next02 σ l) s'.phase = true := by
  have hq' := fun e he => plOk_next02 hf (hq e he)
  have hp' := phaseOk_next02 hf hp
  constructor
  · intro e he
    cases step_chanOf hs with
    | same _ h => rw [h] at he; exact hq' e he
    | enq pl tok t hl _ _ h =>
      rw [h, Chan.enq_queue, List.mem_append, List.mem_singleton] at he
      rcases he with he | rfl
      · exact hq' e he
      · cases hl with
        | op o h' k hk hp =>
          subst hp
          exact plOk_begin σ o h' k _ (by cases k <;> first | rfl | exact absurd rfl hk.1 | exact absurd rfl hk.2)
        | _ => exact plOk_of_noslot _ rfl
    | bind pl m tok rest _ hqq h =>
      rw [h] at he
      rcases List.mem_cons.mp he with rfl | he
      · rfl
      · exact hq' e (hqq ▸ List.mem_cons_of_mem _ he)
    | deq _ _ _ _ _ _ h => rw [h] at he; exact hq' e (List.mem_of_mem_tail he)
    | drop _ h => rw [h] at he; cases he
  · cases hl : l.isLoop
    · rw [step_phase hs hl]; exact hp'
    cases step_loop hs hl
    case handle m slot tok rest _ hqq _ =>
      cases slot with
      | none => rfl
      | some o => exact hq' _ (hqq ▸ List.mem_cons_self ..)
    all_goals first | rfl | exact hp'

theorem slot_kind {s : AState} {σ : C02St} (hq : ∀ e ∈ s.chan.queue, plOk σ e.pl = true)
    (hp : phaseOk σ s.phase = true) {o : Nat} (ho : o ∈ s.slotsLive) :
    ∃ k late, lookup o σ.ops = some (k, late) ∧ (k.isCall = true ∨ k = .ping) := by
  have key : ∀ pl, plOk σ pl = true → slotOf pl = some o →
      ∃ k late, lookup o σ.ops = some (k, late) ∧ (k.isCall = true ∨ k = .ping) := by
    intro pl hpl hsl
    cases pl <;> first | (cases hsl; done) | skip
    · rename_i m sl
      cases sl <;> cases hsl
      obtain ⟨k, late, hl, hk, -⟩ := plOk_msg.mp hpl
      exact ⟨k, late, hl, .inl hk⟩
    · cases hsl
      obtain ⟨k, late, hl, hk⟩ := plOk_ping.mp hpl
      exact ⟨k, late, hl, .inr hk⟩
  unfold slotsLive at ho
  rcases List.mem_append.mp ho with ho | ho
  · unfold curSlot at ho
    split at ho
    · rename_i cb o' dl hph
      simp at ho; subst ho
      obtain ⟨m, hm, hpl⟩ := phaseOk_handling (hph ▸ hp)
      exact key _ hpl rfl
    · simp at ho
  · obtain ⟨e, he, hsl⟩ := List.mem_filterMap.mp ho
    exact key _ (hq e he) hsl

end Hannibal
