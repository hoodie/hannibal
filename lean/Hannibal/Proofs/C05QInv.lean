import Hannibal.Props.C05
import Hannibal.Proofs.C05QLite
import Hannibal.Proofs.C05QPhase
/-
  C05 (2): the coupling between the actor model and the state of `monC05q`, with the states of
  `monC05` and `monC02` as ghosts, and its preservation, component by component.
-/
namespace Hannibal
open AState

/-- the monitor has seen a reason other than "no strong holder left" for the actor to end -/
def excused (c : MonCtx) (σ : C05qSt) : Bool :=
  σ.stopIssued || σ.failure || (c.cfg.stream && σ.streamEnded)

theorem excused_next {c : MonCtx} {σ : C05qSt} {l : Label} (h : excused c (next05q c σ l) = false) :
    excused c σ = false := by
  simp only [excused, next05q, Bool.or_eq_false_iff, Bool.and_eq_false_iff] at h ⊢
  exact ⟨⟨h.1.1.1, h.1.2.1.1⟩, h.2.imp id (·.1)⟩

theorem handled_next {c : MonCtx} {σ : C05qSt} {l : Label} {m : Nat} (h : m ∈ σ.handled) :
    m ∈ (next05q c σ l).handled := by
  cases l <;> try exact h
  rename_i cb
  cases cb <;> try exact h
  exact List.mem_cons_of_mem _ h

theorem mem_sentOk_next {c : MonCtx} {σ : C05qSt} {l : Label} {m : Nat} (h : m ∈ (next05q c σ l).sentOk) :
    m ∈ σ.sentOk ∨ ∃ o, l = .ret o .ok ∧ lookup o σ.sends = some m := by
  cases l <;> try exact .inl h
  rename_i o r
  cases r <;> try exact .inl h
  simp only [next05q] at h
  cases hl : lookup o σ.sends with
  | none => simp only [hl] at h; exact .inl h
  | some m' =>
    simp only [hl] at h
    rcases List.mem_cons.mp h with rfl | h
    · exact .inr ⟨o, rfl, hl⟩
    · exact .inl h

theorem lookup_sends_begin {c : MonCtx} {σ : C05qSt} {o h o' m : Nat} {k : OpKind}
    (hl : lookup o' (next05q c σ (.begin o h k)).sends = some m) :
    (o = o' ∧ k.msg? = some m) ∨ lookup o' σ.sends = some m := by
  cases k <;> first | exact .inr hl | skip
  all_goals
    simp only [next05q, lookup] at hl
    split at hl
    · rename_i heq
      exact .inl ⟨beq_iff_eq.mp heq, by simpa [OpKind.msg?] using hl⟩
    · exact .inr hl

def Acc (s : AState) (σ : C05qSt) (m : Nat) : Prop := m ∈ σ.handled ∨ (pastLoop s.phase = false ∧ inQ s m)

structure C05qInv (w : Wiring) (c : MonCtx) (s : AState) (σ : C05qSt) (σ5 : C05St) (σ2 : C02St) : Prop where
  i5 : C05Inv w c s σ5
  i2 : Lite02 s σ2
  hold : σ.hold = σ5.hold
  stop : σ.stopIssued = σ5.stopIssued
  strm : σ.streamEnded = σ5.streamEnded
  term : σ.terminated = σ2.terminated
  grace : σ.graceful = σ2.graceful
  sends : ∀ o m, lookup o σ.sends = some m → ∃ k late, lookup o σ2.ops = some (k, late) ∧ k.msg? = some m
  failPh : failing s.phase = true → σ.failure = true
  dead : excused c σ = false → pastLoop s.phase = true → Dead05 s
  acked : excused c σ = false → ∀ m ∈ σ.sentOk, Acc s σ m
  live : excused c σ = false → ∀ r ∈ s.ops, (∀ e, r.st ≠ .failed e) → ∀ m, r.kind.msg? = some m → Acc s σ m

theorem c05q_init (w : Wiring) (c : MonCtx) :
    C05qInv w c (AState.init c.cfg c.h0 c.k0) (monC05q c).init (monC05 c).init C02St.init := by
  refine ⟨c05_init w c, lite02_init c, rfl, rfl, rfl, rfl, rfl, ?_, ?_, ?_, ?_, ?_⟩
  · intro o m h; simp [monC05q, lookup] at h
  · intro h; simp [AState.init, failing] at h
  · intro _ h; simp [AState.init, pastLoop] at h
  · intro _ m hm; simp [monC05q] at hm
  · intro _ r hr; simp [AState.init] at hr

variable {w : Wiring} {c : MonCtx} {s s' : AState} {σ : C05qSt} {σ5 : C05St} {σ2 : C02St} {l : Label}

theorem ret_ok_send (hi : C05qInv w c s σ σ5 σ2) {o m : Nat} (hs : stepRet s o .ok = some s')
    (hl : lookup o σ.sends = some m) : ∃ rec ∈ s.ops, (∀ e, rec.st ≠ .failed e) ∧ rec.kind.msg? = some m := by
  obtain ⟨rec, hfind, hexp, -⟩ := stepRet_cases hs
  obtain ⟨hr, hro⟩ := findOp_some_mem hfind
  obtain ⟨late, h1, -⟩ := opOk_parts (hi.i2.ops rec hr)
  obtain ⟨k, late', h2, hk⟩ := hi.sends o m hl
  rw [hro, h2] at h1
  obtain ⟨rfl, -⟩ := Prod.mk.inj (Option.some.inj h1)
  exact ⟨rec, hr, fun e he => by simp [retExpect, he] at hexp, hk⟩

theorem sends_step (c : MonCtx) (hf : freshFor σ2 l)
    (h : ∀ o m, lookup o σ.sends = some m → ∃ k late, lookup o σ2.ops = some (k, late) ∧ k.msg? = some m) :
    ∀ o m, lookup o (next05q c σ l).sends = some m →
      ∃ k late, lookup o (next02 σ2 l).ops = some (k, late) ∧ k.msg? = some m := by
  intro o m hl
  have old : lookup o σ.sends = some m → ∃ k late, lookup o (next02 σ2 l).ops = some (k, late) ∧ k.msg? = some m := by
    intro hl
    obtain ⟨k, late, h1, h2⟩ := h o m hl
    exact ⟨k, late, lookup_next02 hf h1, h2⟩
  cases l <;> first | exact old hl | skip
  rcases lookup_sends_begin hl with ⟨rfl, hk⟩ | hl
  · exact ⟨_, σ2.terminated, by simp [lookup], hk⟩
  · exact old hl

theorem failPh_step (hcfg : s.cfg = c.cfg) (hs : step w s l = some s')
    (hi : failing s.phase = true → σ.failure = true) :
    failing s'.phase = true → (next05q c σ l).failure = true := by
  intro h
  rcases step_failed hs h with h | h
  · simp [next05q, hi h]
  · rw [hcfg] at h
    cases l <;> simp_all [next05q, Label.fails, Label.isFailure]

theorem enter_past (hi : C05qInv w c s σ σ5 σ2) (hs : step w s l = some s')
    (he' : excused c (next05q c σ l) = false) (hp : pastLoop s.phase = false) (hp' : pastLoop s'.phase = true) :
    l = .tChanEnd ∧ s.chan.queue = [] ∧ s.sendersAlive w = false ∧ s' = { s with phase := .leaving } := by
  have he := excused_next he'
  by_cases hex : l.isTau = true
  · cases l <;> first | (cases hex; done) | skip
    case tDeq =>
      cases step_loop hs rfl with
      | stop e rest _ hq _ hpl =>
        have := hi.i5.stopq (by unfold cntP; rw [hq]; simp [hpl, isStopP])
        rw [← hi.stop] at this
        simp [excused, this] at he
      | ping | restartIgnored => exact Bool.noConfusion (hp.symm.trans hp')
      | restartTaken => exact Bool.noConfusion hp'
    case tChanEnd => cases step_loop hs rfl with | chanEnd _ hq hsa => exact ⟨rfl, hq, hsa, rfl⟩
    case tStreamEnd =>
      cases step_loop hs rfl with
      | streamEnd _ hst hend =>
        rw [hi.i5.cfg] at hst
        have h3 : σ.streamEnded = true := by rw [hi.strm, hi.i5.strm, hend]
        simp [excused, hst, h3] at he
  · have := failPh_step hi.i5.cfg hs hi.failPh (enter_pastLoop hs (by simpa using hex) hp hp')
    simp [excused, this] at he'

/-- a message stays accounted for: it waits until its handler begins, and an unexcused loop only leaves an empty
    mailbox behind -/
theorem acc_step (hi : C05qInv w c s σ σ5 σ2) (hs : step w s l = some s')
    (he' : excused c (next05q c σ l) = false) {m : Nat} (h : Acc s σ m) : Acc s' (next05q c σ l) m := by
  rcases h with h | ⟨hp, hq⟩
  · exact .inl (handled_next h)
  · cases hp' : pastLoop s'.phase
    · rcases inQ_step hs hq with h | rfl | ht
      · exact .inr ⟨hp', h⟩
      · exact .inl (by simp [next05q])
      · have hd := (step_isDone w hs).1 ht
        cases hph : s'.phase <;> simp [isDone, hph] at hd
        simp [hph, pastLoop] at hp'
    · obtain ⟨-, hqe, -, -⟩ := enter_past hi hs he' hp hp'
      obtain ⟨e, he, -⟩ := hq
      rw [hqe] at he; cases he

theorem past_dead (hw : WellWired05 w) (hi : C05qInv w c s σ σ5 σ2) (hs : step w s l = some s')
    (he' : excused c (next05q c σ l) = false) (hp' : pastLoop s'.phase = true) : Dead05 s' := by
  cases hp : pastLoop s.phase
  · exact dead_step hw (dead_of_not_alive hw (enter_past hi hs he' hp hp').2.2.1) hs
  · exact dead_step hw (hi.dead (excused_next he') hp) hs

theorem acked_step (hi : C05qInv w c s σ σ5 σ2) (hs : step w s l = some s')
    (he' : excused c (next05q c σ l) = false) : ∀ m ∈ (next05q c σ l).sentOk, Acc s' (next05q c σ l) m := by
  intro m hm
  rcases mem_sentOk_next hm with hm | ⟨o, rfl, hl⟩
  · exact acc_step hi hs he' (hi.acked (excused_next he') m hm)
  · obtain ⟨rec, hr, hnf, hk⟩ := ret_ok_send hi hs hl
    exact acc_step hi hs he' (hi.live (excused_next he') rec hr hnf m hk)

theorem planPl_msg {o m : Nat} {k : OpKind} {pl : Payload} (hpl : planPl o k = some pl) (hk : k.msg? = some m) :
    ∃ sl, pl = .msg m sl := by
  cases k <;> cases hk <;> exact ⟨_, (Option.some.inj hpl).symm⟩

theorem live05q_step (hw : WellWired05 w) (hi : C05qInv w c s σ σ5 σ2) (hs : step w s l = some s')
    (he' : excused c (next05q c σ l) = false) :
    ∀ r ∈ s'.ops, (∀ e, r.st ≠ .failed e) → ∀ m, r.kind.msg? = some m → Acc s' (next05q c σ l) m := by
  have he := excused_next he'
  intro r' hr' hnf m hm
  rcases step_op_mem hs hr' with ⟨rfl, -, hops⟩ | ⟨r, hr, -, hk, -, hst, -, -⟩
  · -- a new submission that went through: the loop still runs, and the message waits in its mailbox
    cases hp : pastLoop s.phase
    · cases (BeginOut.of_ops hs hops).1 with
      | refused e hst' => exact absurd hst' (hnf e)
      | wait hpl => cases r' with | mk o h k st => cases k <;> cases hm <;> cases hpl
      | sent pl tok hpl _ hc =>
        obtain ⟨sl, rfl⟩ := planPl_msg hpl hm
        exact .inr ⟨by rw [step_phase hs rfl]; exact hp, inQ_new hc⟩
    · exact absurd ((hi.dead he hp).noHolder.new_op_fails hw hs hops) (hnf _)
  · have hnf0 : ∀ e, r.st ≠ .failed e := by
      rintro e he0
      rcases hst with h | h
      · exact hnf e (h.trans he0)
      · rw [he0] at h; cases h
    exact acc_step hi hs he' (hi.live he r hr hnf0 m (hk ▸ hm))

end Hannibal
