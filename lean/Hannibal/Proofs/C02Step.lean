import Hannibal.Proofs.C02Inv
/-
  C02: preservation of the per-operation coupling `opOk`, and with it of the part of the invariant that
  C02 and CancelErr share.
-/
namespace Hannibal
open AState

theorem stOk_mono {fin fin' : List Nat} {k : OpKind} {st : OpSt}
    (h : ∀ m, fin.contains m = true → fin'.contains m = true) (hs : stOk fin k st = true) :
    stOk fin' k st = true := by
  cases st <;> simp_all [stOk]

theorem opOk_parts {σ : C02St} {r : OpRec} (h : opOk σ r = true) :
    ∃ late, lookup r.o σ.ops = some (r.kind, late) ∧ σ.returned.contains r.o = false ∧
      (late = true → lateSt r.kind r.st = true) ∧ stOk σ.finishedOk r.kind r.st = true := by
  unfold opOk at h
  cases hl : lookup r.o σ.ops with
  | none => simp [hl] at h
  | some v =>
    obtain ⟨k, late⟩ := v
    simp [hl] at h
    obtain ⟨⟨⟨hk, hret⟩, hlate⟩, hst⟩ := h
    subst hk
    refine ⟨late, rfl, by simpa using hret, ?_, hst⟩
    intro hl'; subst hl'; simpa using hlate

theorem opOk_of_parts {σ : C02St} {r : OpRec} {late : Bool} (h1 : lookup r.o σ.ops = some (r.kind, late))
    (h2 : σ.returned.contains r.o = false) (h3 : late = true → lateSt r.kind r.st = true)
    (h4 : stOk σ.finishedOk r.kind r.st = true) : opOk σ r = true := by
  unfold opOk
  simp only [h1]
  cases late
  · simp_all
  · simp_all

theorem opOk_next02 {σ : C02St} {l : Label} {r : OpRec} (hf : freshFor σ l)
    (hnr : ∀ o res, l = .ret o res → r.o ≠ o) (h : opOk σ r = true) : opOk (next02 σ l) r = true := by
  obtain ⟨late, h1, h2, h3, h4⟩ := opOk_parts h
  refine opOk_of_parts (lookup_next02 hf h1) ?_ h3 ?_
  · cases l <;> simp only [next02_returned] <;> try exact h2
    rename_i o res
    have := hnr o res rfl
    simp at h2 ⊢
    exact ⟨this, h2⟩
  · refine stOk_mono ?_ h4
    intro m hm
    simp only [next02_finishedOk]
    split
    · simp at hm ⊢; exact .inr hm
    · exact hm

theorem opOk_upd {σ : C02St} {r : OpRec} {st' : OpSt} (h : opOk σ r = true) (hp : r.st = .pending)
    (hk : r.kind.isCall = true ∨ r.kind = .ping) (hst : stOk σ.finishedOk r.kind st' = true) :
    opOk σ { r with st := st' } = true := by
  obtain ⟨late, h1, h2, h3, h4⟩ := opOk_parts h
  refine opOk_of_parts (late := late) h1 h2 ?_ hst
  intro hl
  have := h3 hl
  rw [hp] at this
  simp [lateSt] at this
  rcases hk with hk | hk <;> simp [this, OpKind.isCall] at hk

theorem ops_step {w : Wiring} {s s' : AState} {σ : C02St} {l : Label} (hf : freshFor σ l)
    (hs : step w s l = some s') (hops : ∀ r ∈ s.ops, opOk σ r = true)
    (hret : ∀ o ∈ σ.returned, (lookup o σ.ops).isSome = true)
    (hq : ∀ e ∈ s.chan.queue, plOk σ e.pl = true) (hp : phaseOk σ s.phase = true)
    (hdc : DoneChan s) (hterm : σ.terminated = s.isDone) :
    ∀ r' ∈ s'.ops, opOk (next02 σ l) r' = true := by
  by_cases hedge : l.isOpEdge = true
  · intro r' hr'
    rcases edge_ops hs hedge r' hr' with ⟨hr, hne⟩ | ⟨o, h, k, st, rfl, hout, rfl, -⟩
    · exact opOk_next02 hf (fun o res h he => hne.1 res (he ▸ h)) (hops r' hr)
    · refine opOk_of_parts (late := σ.terminated) (by simp [lookup]) ?_ ?_ ?_
      · cases hc : σ.returned.contains o
        · exact hc
        · have := hret o (by simpa using hc)
          rw [show lookup o σ.ops = none from hf] at this
          cases this
      · -- after termination the receiver is gone: nothing is submitted
        intro hl
        rw [hterm] at hl
        cases hout with
        | refused e hst => subst hst; rfl
        | wait _ _ hst => rcases hst with ⟨rfl, rfl⟩ | ⟨rfl, rfl | rfl⟩ <;> rfl
        | sent pl tok _ hrx' => rw [(hdc hl).1] at hrx'; cases hrx'
      · cases hout with
        | refused e hst _ hk => subst hst; cases k <;> simp_all [stOk, planPl]
        | wait _ _ hst => rcases hst with ⟨rfl, rfl⟩ | ⟨rfl, rfl | rfl⟩ <;> rfl
        | sent pl tok hpl _ _ hst =>
          rcases hst with ⟨rfl, rfl | rfl⟩ | ⟨hk, rfl⟩ <;> first | rfl | skip
          cases k <;> simp_all [stOk, planPl]
  · have hedge' : l.isOpEdge = false := by simpa using hedge
    have hnr : ∀ (r : OpRec) o res, l = .ret o res → r.o ≠ o := by
      intro r o res h; subst h; simp [Label.isOpEdge] at hedge'
    have upd : ∀ p st, s'.ops = s.ops.map (resolve p st) →
        (∀ r ∈ s.ops, p r = true → ∀ late, lookup r.o σ.ops = some (r.kind, late) →
          (r.kind.isCall = true ∨ r.kind = .ping) ∧ stOk (next02 σ l).finishedOk r.kind st = true) →
        ∀ r' ∈ s'.ops, opOk (next02 σ l) r' = true := by
      intro p st h hk r' hr'
      rw [h] at hr'
      obtain ⟨r, hr, rfl⟩ := List.mem_map.mp hr'
      have h0 := opOk_next02 hf (hnr r) (hops r hr)
      rcases resolve_cases p st r with he | ⟨hp, hst, he⟩ <;> rw [he]
      · exact h0
      · obtain ⟨late, hl, -⟩ := opOk_parts (hops r hr)
        obtain ⟨hk1, hk2⟩ := hk r hr hp late hl
        exact opOk_upd h0 hst hk1 hk2
    have cancel : ∀ slots : List Nat, (∀ o ∈ slots, o ∈ s.slotsLive) →
        s'.ops = s.ops.map (resolve (fun r => slots.contains r.o) .cancelled) →
        ∀ r' ∈ s'.ops, opOk (next02 σ l) r' = true := by
      intro slots hsub h
      refine upd _ _ h (fun r hr hc late hl => ?_)
      obtain ⟨k, late', hl', hk⟩ := slot_kind hq hp (hsub _ (by simpa using hc))
      rw [hl] at hl'; cases hl'
      exact ⟨hk, by rcases hk with hk | hk <;> simp [stOk, hk]⟩
    cases step_opsChange hs hedge' with
    | same h =>
      intro r' hr'; rw [h] at hr'
      exact opOk_next02 hf (hnr r') (hops r' hr')
    | broken cb _ _ h => exact cancel _ (fun _ ho => List.mem_append_left _ ho) h
    | gone _ h => exact cancel _ (fun _ ho => ho) h
    | answer m o dl hph hl h =>
      refine upd _ _ h (fun r hr hc late hl' => ?_)
      obtain ⟨m', hm', hpl⟩ := phaseOk_handling (hph ▸ hp)
      cases hm'
      obtain ⟨k, _, hlk, hk1, hk2⟩ := plOk_msg.mp hpl
      rw [← beq_iff_eq.mp hc, hl'] at hlk
      cases hlk
      subst hl
      exact ⟨.inl hk1, by simp [stOk, hk1, hk2]⟩
    | ping o tok rest hqq h =>
      refine upd _ _ h (fun r hr hc late hl' => ?_)
      obtain ⟨k, _, hlk, hk⟩ := plOk_ping.mp (hq { pl := .ping o, tok } (by rw [hqq]; simp))
      rw [← beq_iff_eq.mp hc, hl'] at hlk
      cases hlk
      exact ⟨.inr hk, by simp [stOk, hk]⟩

structure Core02 (s : AState) (σ : C02St) : Prop where
  term : σ.terminated = s.isDone
  ops : ∀ r ∈ s.ops, opOk σ r = true
  ret : ∀ o ∈ σ.returned, (lookup o σ.ops).isSome = true
  queue : ∀ e ∈ s.chan.queue, plOk σ e.pl = true
  phase : phaseOk σ s.phase = true
  dchan : DoneChan s

theorem core02_init (cfg : Cfg) (h0 : Nat) (k0 : HKind) : Core02 (AState.init cfg h0 k0) C02St.init :=
  ⟨rfl, nofun, nofun, nofun, rfl, doneChan_init cfg h0 k0⟩

theorem core02_step {w : Wiring} {s s' : AState} {σ : C02St} {l : Label} (hi : Core02 s σ)
    (hf : freshFor σ l) (hs : step w s l = some s') : Core02 s' (next02 σ l) := by
  obtain ⟨hq', hp'⟩ := qinv02_step hf hs hi.queue hi.phase
  refine ⟨?_, ops_step hf hs hi.ops hi.ret hi.queue hi.phase hi.dchan hi.term, ?_, hq', hp',
    doneChan_step hs hi.dchan⟩
  · obtain ⟨hd1, hd2⟩ := step_isDone w hs
    rw [next02_terminated]
    cases ht : l.terminates
    · rw [hd2 ht]; exact hi.term
    · exact (hd1 ht).symm
  · have hold : ∀ o ∈ σ.returned, (lookup o (next02 σ l).ops).isSome = true := by
      intro o ho
      cases hl : lookup o σ.ops with
      | none => have := hi.ret o ho; simp [hl] at this
      | some v => rw [lookup_next02 hf hl]; rfl
    intro o ho
    rw [next02_returned] at ho
    cases l <;> first | exact hold o ho | skip
    rename_i o' res
    rcases List.mem_cons.mp ho with rfl | ho
    · -- the operation that returns had a record, hence an entry in the monitor's table
      obtain ⟨rec, hfind, -⟩ := stepRet_ops hs
      obtain ⟨hr, hro⟩ := findOp_some_mem hfind
      obtain ⟨late, h1, -⟩ := opOk_parts (hi.ops rec hr)
      rw [hro] at h1
      rw [lookup_next02 hf h1]; rfl
    · exact hold o ho

end Hannibal
