import Hannibal.Proofs.C09List
/-
  C09: what each move does to the broker, and the invariants coupling the broker state, the monitor
  state, the well-formedness state and the ghost enqueue order, with their preservation by the individual moves.
-/
namespace Hannibal

/-- `bstep` as a relation: the guard of each label and the successor state, one constructor per branch.
    A take-up `deliver c m` is written with the split of `flight` at the first entry of `c`. -/
inductive BStep (s : BrSt) : BLabel → BrSt → Prop
  | bbegin (o : Nat) (it : BItem) (hp : ∀ p ∈ s.pend, p.1 ≠ o) (hs : o ∉ s.sent) :
      BStep s (.bbegin o it) { s with pend := s.pend ++ [(o, it)] }
  | benq (o : Nat) (it : BItem) (hp : (o, it) ∈ s.pend) :
      BStep s (.benq o)
        { s with pend := s.pend.filter (fun p => p.1 != o), sent := o :: s.sent, mbox := s.mbox ++ [it] }
  | bret (o : Nat) (hs : o ∈ s.sent) : BStep s (.bret o) { s with sent := s.sent.filter (fun x => x != o) }
  | procSub (c : Nat) (rest : List BItem) (hm : s.mbox = .sub c :: rest) :
      BStep s .bproc { s with mbox := rest, subs := c :: s.subs.filter (fun x => x != c) }
  | procUnsub (c : Nat) (rest : List BItem) (hm : s.mbox = .unsub c :: rest) :
      BStep s .bproc { s with mbox := rest, subs := s.subs.filter (fun x => x != c) }
  | procPub (m : Nat) (rest : List BItem) (hm : s.mbox = .pub m :: rest) :
      BStep s .bproc { s with
        mbox := rest,
        flight := s.flight ++ (s.subs.filter (fun c => !s.dead.contains c)).map (fun c => (c, m)) }
  | deliver (c m : Nat) (f1 f2 : List (Nat × Nat)) (hd : c ∉ s.dead) (hf : s.flight = f1 ++ (c, m) :: f2)
      (hn : ∀ a ∈ f1, a.1 ≠ c) : BStep s (.deliver c m) { s with flight := f1 ++ f2 }
  | term (c : Nat) :
      BStep s (.term c) { s with dead := c :: s.dead, flight := s.flight.filter (fun p => p.1 != c) }

theorem bstep_cases {s s' : BrSt} {l : BLabel} (h : bstep s l = some s') : BStep s l s' := by
  cases l with
  | bbegin o it =>
    simp only [bstep] at h
    split at h <;> cases h
    rename_i hc
    simp only [Bool.or_eq_true, List.any_eq_true, beq_iff_eq, List.contains_eq_mem, decide_eq_true_eq,
        not_or, not_exists, not_and] at hc
    exact .bbegin o it hc.1 hc.2
  | benq o =>
    simp only [bstep] at h
    split at h <;> cases h
    rename_i o' it hf
    obtain rfl : o' = o := by simpa using List.find?_some hf
    exact .benq _ it (List.mem_of_find?_eq_some hf)
  | bret o =>
    simp only [bstep] at h
    split at h <;> cases h
    exact .bret o (by simpa using ‹s.sent.contains o = true›)
  | bproc =>
    simp only [bstep] at h
    split at h <;> cases h
    · exact .procSub _ _ ‹_›
    · exact .procUnsub _ _ ‹_›
    · exact .procPub _ _ ‹_›
  | deliver c m =>
    simp only [bstep] at h
    split at h
    · cases h
    · rename_i hd
      split at h
      · rename_i c' m' hf
        split at h <;> cases h
        subst ‹m' = m›
        obtain ⟨hp, f1, f2, he, hn⟩ := List.find?_eq_some_iff_append.mp hf
        obtain rfl : c' = c := by simpa using hp
        have hn : ∀ a ∈ f1, a.1 ≠ c' := fun a ha => by simpa using hn a ha
        rw [he, List.erase_append_right _ (fun h => hn _ h rfl), List.erase_cons_head]
        exact .deliver _ _ f1 f2 (by simpa using hd) he hn
      · cases h
  | term c => cases h; exact .term c

def close9 (o now : Nat) (x : Op9) : Op9 :=
  if x.o == o && x.tr.isNone then { x with tr := some now } else x

@[simp] theorem close9_tb (o n : Nat) (x : Op9) : (close9 o n x).tb = x.tb := by
  unfold close9; split <;> rfl
@[simp] theorem close9_it (o n : Nat) (x : Op9) : (close9 o n x).it = x.it := by
  unfold close9; split <;> rfl
@[simp] theorem close9_o (o n : Nat) (x : Op9) : (close9 o n x).o = x.o := by
  unfold close9; split <;> rfl

theorem close9_of_ne {o n : Nat} {x : Op9} (h : x.o ≠ o) : close9 o n x = x := by
  unfold close9; simp [h]

theorem close9_tr_none {o n : Nat} {x : Op9} (h : (close9 o n x).tr = none) : x.tr = none ∧ x.o ≠ o := by
  unfold close9 at h
  split at h
  · simp at h
  · rename_i hc
    refine ⟨h, ?_⟩
    intro ho
    simp [ho, h] at hc

theorem close9_tr_some {o n r : Nat} {x : Op9} (h : (close9 o n x).tr = some r) :
    x.tr = some r ∨ (x.tr = none ∧ x.o = o ∧ r = n) := by
  unfold close9 at h
  split at h
  · rename_i hc
    simp at hc h
    right
    exact ⟨by simpa using hc.2, hc.1, h.symm⟩
  · exact Or.inl h

structure OpsInv (ops : List Op9) (now : Nat) (W : List Nat) : Prop where
  t1 : ∀ x ∈ ops, x.tb < now
  t2 : ∀ x ∈ ops, ∀ y ∈ ops, x.tb = y.tb → x = y
  u1 : ∀ x ∈ ops, ∀ y ∈ ops, x.tr = none → y.tr = none → x.o = y.o → x = y
  w1 : ∀ x ∈ ops, ∀ m, x.it = .pub m → m ∈ W
  pu : ∀ x ∈ ops, ∀ y ∈ ops, ∀ m, x.it = .pub m → y.it = .pub m → x = y

theorem ops_begin {ops : List Op9} {now : Nat} {W W' : List Nat} (h : OpsInv ops now W) (o : Nat) (it : BItem)
    (hopen : ∀ x ∈ ops, x.tr = none → x.o ≠ o) (hW : ∀ m ∈ W, m ∈ W')
    (hnew : ∀ m, it = .pub m → m ∉ W ∧ m ∈ W') :
    OpsInv (ops ++ [{ o, it, tb := now, tr := none }]) (now + 1) W' := by
  have hnow : ∀ x ∈ ops, x.tb ≠ now := fun x hx => Nat.ne_of_lt (h.t1 x hx)
  refine ⟨?_, ?_, ?_, ?_, ?_⟩ <;> simp only [List.mem_append, List.mem_singleton]
  · rintro x (hx | rfl)
    · exact Nat.lt_succ_of_lt (h.t1 x hx)
    · exact Nat.lt_succ_self _
  · rintro x (hx | rfl) y (hy | rfl) hxy
    · exact h.t2 x hx y hy hxy
    · exact absurd hxy (hnow x hx)
    · exact absurd hxy.symm (hnow y hy)
    · rfl
  · rintro x (hx | rfl) y (hy | rfl) hxo hyo hxy
    · exact h.u1 x hx y hy hxo hyo hxy
    · exact absurd hxy (hopen x hx hxo)
    · exact absurd hxy.symm (hopen y hy hyo)
    · rfl
  · rintro x (hx | rfl) m hm
    · exact hW m (h.w1 x hx m hm)
    · exact (hnew m hm).2
  · rintro x (hx | rfl) y (hy | rfl) m hxm hym
    · exact h.pu x hx y hy m hxm hym
    · exact absurd (h.w1 x hx m hxm) (hnew m hym).1
    · exact absurd (h.w1 y hy m hym) (hnew m hxm).1
    · rfl

theorem ops_tick {ops : List Op9} {now : Nat} {W : List Nat} (h : OpsInv ops now W) : OpsInv ops (now + 1) W :=
  ⟨fun x hx => Nat.lt_succ_of_lt (h.t1 x hx), h.t2, h.u1, h.w1, h.pu⟩

theorem ops_ret {ops : List Op9} {now : Nat} {W : List Nat} (h : OpsInv ops now W) (o : Nat) :
    OpsInv (ops.map (close9 o now)) (now + 1) W := by
  refine ⟨?_, ?_, ?_, ?_, ?_⟩ <;> simp only [List.forall_mem_map, close9_tb, close9_it, close9_o]
  · exact fun x hx => Nat.lt_succ_of_lt (h.t1 x hx)
  · exact fun x hx y hy hxy => congrArg _ (h.t2 x hx y hy hxy)
  · exact fun x hx y hy hxo hyo hxy =>
      congrArg _ (h.u1 x hx y hy (close9_tr_none hxo).1 (close9_tr_none hyo).1 hxy)
  · exact h.w1
  · exact fun x hx y hy m hxm hym => congrArg _ (h.pu x hx y hy m hxm hym)

structure EInv (ops : List Op9) (now : Nat) (E : List GE) : Prop where
  ek : E.Pairwise (fun a b => a.k ≠ b.k)
  te1 : ∀ e ∈ E, e.k < e.te ∧ e.te ≤ now
  te2 : E.Pairwise (fun a b => a.te ≤ b.te)
  el : ∀ e ∈ E, ∃ x ∈ ops, x.tb = e.k ∧ x.it = e.it

theorem EInv.mono {ops ops' : List Op9} {now now' : Nat} {E : List GE} (h : EInv ops now E) (hn : now ≤ now')
    (hops : ∀ x ∈ ops, ∃ y ∈ ops', y.tb = x.tb ∧ y.it = x.it) : EInv ops' now' E := by
  refine ⟨h.ek, fun e he => ⟨(h.te1 e he).1, Nat.le_trans (h.te1 e he).2 hn⟩, h.te2, fun e he => ?_⟩
  obtain ⟨x, hx, h1, h2⟩ := h.el e he
  obtain ⟨y, hy, h3, h4⟩ := hops x hx
  exact ⟨y, hy, h3.trans h1, h4.trans h2⟩

theorem e_tick {ops : List Op9} {now : Nat} {E : List GE} (h : EInv ops now E) : EInv ops (now + 1) E :=
  h.mono (Nat.le_succ _) fun x hx => ⟨x, hx, rfl, rfl⟩

theorem e_begin {ops : List Op9} {now : Nat} {E : List GE} (h : EInv ops now E) (x : Op9) :
    EInv (ops ++ [x]) (now + 1) E :=
  h.mono (Nat.le_succ _) fun y hy => ⟨y, List.mem_append_left _ hy, rfl, rfl⟩

theorem e_ret {ops : List Op9} {now : Nat} {E : List GE} (h : EInv ops now E) (o : Nat) :
    EInv (ops.map (close9 o now)) (now + 1) E :=
  h.mono (Nat.le_succ _) fun _ hy => ⟨_, List.mem_map_of_mem hy, close9_tb .., close9_it ..⟩

theorem e_enq {ops : List Op9} {now : Nat} {E : List GE} (h : EInv ops now E) {y : Op9} (hy : y ∈ ops)
    (hlt : y.tb < now) (hne : ∀ e ∈ E, e.k ≠ y.tb) : EInv ops now (E ++ [⟨y.tb, y.it, now⟩]) := by
  refine ⟨?_, ?_, ?_, ?_⟩ <;>
    simp only [List.pairwise_append, List.pairwise_cons, List.Pairwise.nil, List.mem_append, List.mem_singleton,
      List.not_mem_nil, false_imp_iff, implies_true, and_true, true_and, forall_eq]
  · exact ⟨h.ek, hne⟩
  · rintro e (he | rfl)
    · exact h.te1 e he
    · exact ⟨hlt, Nat.le_refl _⟩
  · exact ⟨h.te2, fun a ha => (h.te1 a ha).2⟩
  · rintro e (he | rfl)
    · exact h.el e he
    · exact ⟨y, hy, rfl, rfl⟩

theorem pubU_of {ops : List Op9} {now : Nat} {W : List Nat} {E : List GE} (ho : OpsInv ops now W)
    (he : EInv ops now E) : PubU E := by
  intro i j e e' m hi hj h1 h2
  obtain ⟨x, hx, hxk, hxi⟩ := he.el e (List.mem_of_getElem? hi)
  obtain ⟨y, hy, hyk, hyi⟩ := he.el e' (List.mem_of_getElem? hj)
  have : x = y := ho.pu x hx y hy m (by rw [hxi, h1]) (by rw [hyi, h2])
  subst this
  exact key_inj he.ek hi hj (by rw [← hxk, ← hyk])

structure StInv (pend : List (Nat × BItem)) (sent : List Nat) (ops : List Op9) (E : List GE) : Prop where
  st : ∀ x ∈ ops, (x.tr = none ∧ (x.o, x.it) ∈ pend ∧ ∀ e ∈ E, e.k ≠ x.tb) ∨
        (∃ e ∈ E, e.k = x.tb ∧ e.it = x.it ∧ (x.tr = none → x.o ∈ sent) ∧ (∀ r, x.tr = some r → e.te ≤ r))
  d1 : ∀ p ∈ pend, p.1 ∉ sent
  pl : ∀ p ∈ pend, ∃ x ∈ ops, x.o = p.1 ∧ x.it = p.2 ∧ x.tr = none

theorem st_open {pend : List (Nat × BItem)} {sent : List Nat} {ops : List Op9} {E : List GE}
    (h : StInv pend sent ops E) {x : Op9} (hx : x ∈ ops) (ho : x.tr = none) :
    (x.o, x.it) ∈ pend ∨ x.o ∈ sent := by
  rcases h.st x hx with ⟨_, h2, _⟩ | ⟨e, _, _, _, h3, _⟩
  · exact Or.inl h2
  · exact Or.inr (h3 ho)

theorem st_begin {pend : List (Nat × BItem)} {sent : List Nat} {ops : List Op9} {E : List GE} {now : Nat}
    (h : StInv pend sent ops E) (he : EInv ops now E) (ht1 : ∀ x ∈ ops, x.tb < now) (o : Nat) (it : BItem)
    (hns : o ∉ sent) : StInv (pend ++ [(o, it)]) sent (ops ++ [{ o, it, tb := now, tr := none }]) E := by
  refine ⟨?_, ?_, ?_⟩ <;> simp only [List.mem_append, List.mem_singleton]
  · rintro x (hx | rfl)
    · exact (h.st x hx).imp_left fun ⟨h1, h2, h3⟩ => ⟨h1, Or.inl h2, h3⟩
    · -- the timestamps in `E` are those of earlier operations
      refine Or.inl ⟨rfl, Or.inr rfl, fun e hee hk => ?_⟩
      obtain ⟨y, hy, hyk, _⟩ := he.el e hee
      exact Nat.ne_of_lt (ht1 y hy) (hyk.trans hk)
  · rintro p (hp | rfl)
    · exact h.d1 p hp
    · exact hns
  · rintro p (hp | rfl)
    · obtain ⟨x, hx, h1⟩ := h.pl p hp
      exact ⟨x, Or.inl hx, h1⟩
    · exact ⟨_, Or.inr rfl, rfl, rfl, rfl⟩

theorem st_enq {pend : List (Nat × BItem)} {sent : List Nat} {ops : List Op9} {E : List GE} {now : Nat}
    {W : List Nat} (h : StInv pend sent ops E) (ho : OpsInv ops now W) {y : Op9} (hy : y ∈ ops)
    (hyo : y.tr = none) (te : Nat) :
    StInv (pend.filter (fun p => p.1 != y.o)) (y.o :: sent) ops (E ++ [⟨y.tb, y.it, te⟩]) := by
  refine ⟨fun x hx => ?_, fun p hp => ?_, fun p hp => h.pl p (List.mem_filter.mp hp).1⟩
  · rcases h.st x hx with ⟨h1, h2, h3⟩ | ⟨e, he, h1, h2, h3, h4⟩
    · by_cases hxo : x.o = y.o
      · -- `x` is the operation that enters the mailbox
        obtain rfl : x = y := ho.u1 x hx y hy h1 hyo hxo
        exact Or.inr ⟨⟨x.tb, x.it, te⟩, by simp, rfl, rfl, fun _ => List.mem_cons_self, fun r hr => by simp [h1] at hr⟩
      · refine Or.inl ⟨h1, List.mem_filter.mpr ⟨h2, by simpa using hxo⟩, fun e he => ?_⟩
        rcases List.mem_append.mp he with he | he
        · exact h3 e he
        · obtain rfl := List.mem_singleton.mp he
          exact fun hk => hxo (congrArg _ (ho.t2 x hx y hy hk.symm))
    · exact Or.inr ⟨e, List.mem_append_left _ he, h1, h2, fun hn => List.mem_cons_of_mem _ (h3 hn), h4⟩
  · obtain ⟨hp, hne⟩ := List.mem_filter.mp hp
    exact List.not_mem_cons_of_ne_of_not_mem (by simpa using hne) (h.d1 p hp)

theorem st_ret {pend : List (Nat × BItem)} {sent : List Nat} {ops : List Op9} {E : List GE} {now : Nat}
    (h : StInv pend sent ops E) (he : EInv ops now E) (o : Nat) (hos : o ∈ sent) :
    StInv pend (sent.filter (fun x => x != o)) (ops.map (close9 o now)) E := by
  -- an operation still in `pend` is not the one that returns
  have hpend : ∀ x ∈ ops, ∀ p ∈ pend, x.o = p.1 → close9 o now x = x := fun x _ p hp hxp =>
    close9_of_ne fun heq => h.d1 p hp (hxp ▸ heq ▸ hos)
  refine ⟨?_, fun p hp hc => h.d1 p hp (List.mem_filter.mp hc).1, fun p hp => ?_⟩
  · simp only [List.forall_mem_map]
    intro x hx
    rcases h.st x hx with ⟨h1, h2, h3⟩ | ⟨e, hee, h1, h2, h3, h4⟩
    · rw [hpend x hx _ h2 rfl]
      exact Or.inl ⟨h1, h2, h3⟩
    · refine Or.inr ⟨e, hee, by simpa using h1, by simpa using h2, fun hn => ?_, fun r hr => ?_⟩
      · obtain ⟨hn1, hn2⟩ := close9_tr_none hn
        exact List.mem_filter.mpr ⟨by simpa using h3 hn1, by simpa using hn2⟩
      · rcases close9_tr_some hr with hr | ⟨_, _, rfl⟩
        · exact h4 r hr
        · exact (he.te1 e hee).2
  · obtain ⟨x, hx, h1, h2, h3⟩ := h.pl p hp
    exact ⟨x, hpend x hx p hp h1 ▸ List.mem_map_of_mem hx, h1, h2, h3⟩

theorem closed_in_E {pend : List (Nat × BItem)} {sent : List Nat} {ops : List Op9} {E : List GE}
    (h : StInv pend sent ops E) {x : Op9} (hx : x ∈ ops) {r : Nat} (hr : x.tr = some r) :
    ∃ (i : Nat) (e : GE), E[i]? = some e ∧ e.k = x.tb ∧ e.it = x.it ∧ e.te ≤ r := by
  rcases h.st x hx with ⟨h1, _, _⟩ | ⟨e, he, h1, h2, _, h4⟩
  · rw [h1] at hr; cases hr
  · obtain ⟨i, hi⟩ := List.mem_iff_getElem?.mp he
    exact ⟨i, e, hi, h1, h2, h4 r hr⟩

/-- `x` returned before `y` began, `y` is enqueued: `x` is enqueued earlier -/
theorem enq_order {pend : List (Nat × BItem)} {sent : List Nat} {ops : List Op9} {E : List GE} {now : Nat}
    (he : EInv ops now E) (h : StInv pend sent ops E) {x y : Op9} (hx : x ∈ ops) {r : Nat}
    (hr : x.tr = some r) (hlt : r < y.tb) {j : Nat} {ey : GE} (hj : E[j]? = some ey) (hk : ey.k = y.tb) :
    ∃ (i : Nat) (ex : GE), i < j ∧ E[i]? = some ex ∧ ex.k = x.tb ∧ ex.it = x.it := by
  obtain ⟨i, ex, hi, h1, h2, h3⟩ := closed_in_E h hx hr
  refine ⟨i, ex, ?_, hi, h1, h2⟩
  have hy := (he.te1 ey (List.mem_of_getElem? hj)).1
  rcases Nat.lt_or_ge i j with hlt' | hge
  · exact hlt'
  · have := te_mono he.te2 hj hi hge
    omega

/-- `x` is enqueued no later than `y`: `x` began before `y` returned -/
theorem began_before {pend : List (Nat × BItem)} {sent : List Nat} {ops : List Op9} {E : List GE} {now : Nat}
    (he : EInv ops now E) (h : StInv pend sent ops E) {i j : Nat} {ex ey : GE} (hi : E[i]? = some ex)
    (hj : E[j]? = some ey) (hij : i ≤ j) {y : Op9} (hy : y ∈ ops) (hk : ey.k = y.tb) {r : Nat}
    (hr : y.tr = some r) : ex.k < r := by
  obtain ⟨j', e', hj', h1, _, h3⟩ := closed_in_E h hy hr
  have : j' = j := key_inj he.ek hj' hj (by rw [h1, hk])
  subst this
  rw [hj] at hj'; cases hj'
  have h4 := (he.te1 ex (List.mem_of_getElem? hi)).1
  have h5 := te_mono he.te2 hi hj hij
  omega

end Hannibal
