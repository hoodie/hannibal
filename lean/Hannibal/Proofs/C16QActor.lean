import Hannibal.Proofs.C16Queue
import Hannibal.Proofs.C05Dead
import Hannibal.Proofs.C05Phase
import Hannibal.Monitor.C16
/-
  C16q, single-actor part: an actor that was never "cut" (no stop / restart request, no failure, no handler
  timeout, its stream has not ended) either still runs its loop on an open mailbox without stop / restart
  requests (`Calm`), or left the loop because nothing owns a sender any more (`Gone`); either way the count of
  waiting broadcasts is exact: only `extPush` adds one, only `extBegin` takes one.
-/
namespace Hannibal
namespace C16Q
open AState

/-- the loop is running (or about to) and is not inside a restart -/
def calm : Phase → Bool
  | .unstarted | .starting | .idle | .handling _ _ _ => true
  | _ => false

@[simp] theorem deq_rx (c : Chan) : c.deq.rx = c.rx := rfl

variable {w : Wiring} {s s' : AState} {l : Label}

theorem calm_step (hs : step w s l = some s') (hc : calm s.phase = true) (hcut : cuts l = false) :
    l.terminates = false ∧
    (calm s'.phase = true ∨
     (∃ e rest, s.chan.queue = e :: rest ∧ (e.pl = .stop ∨ e.pl = .restart)) ∨
     (s.chan.queue = [] ∧ s.sendersAlive w = false ∧ s' = { s with phase := .leaving }) ∨
     s.streamEnded = true) := by
  cases hloop : l.isLoop
  · exact ⟨(by cases l <;> first | rfl | cases hloop), .inl (by rw [step_phase hs hloop]; exact hc)⟩
  · cases step_loop hs hloop
    case stop e rest hp hq hrx he => exact ⟨rfl, .inr (.inl ⟨e, rest, hq, .inl he⟩)⟩
    case restartIgnored e rest hp hq hrx he hst hn => exact ⟨rfl, .inr (.inl ⟨e, rest, hq, .inr he⟩)⟩
    case restartTaken e rest hp hq hrx he hst hn => exact ⟨rfl, .inr (.inl ⟨e, rest, hq, .inr he⟩)⟩
    case chanEnd hp hq hsa => exact ⟨rfl, .inr (.inr (.inl ⟨hq, hsa, rfl⟩))⟩
    case streamEnd hp hst he ha => exact ⟨rfl, .inr (.inr (.inr he))⟩
    all_goals simp_all [calm, cuts, issuesStop, Label.isFailure, Label.terminates]

theorem submits_not_cut {pl tok} (h : Submits l pl tok) (hcut : cuts l = false) :
    isStopP pl = false ∧ isRestartP pl = false := by
  cases h with
  | op o h k hk hp =>
    subst hp; cases k <;> first | exact ⟨rfl, rfl⟩ | (cases hcut; done) | exact absurd rfl hk.1 | exact absurd rfl hk.2
  | fire | tick | ext => exact ⟨rfl, rfl⟩
  | _ => cases hcut

theorem streamEnded_step (hs : step w s l = some s') (hcut : cuts l = false) : s'.streamEnded = s.streamEnded := by
  cases hloop : l.isLoop
  · exact (step_frame hs hloop).streamEnded (by rintro rfl; cases hcut)
  · cases step_loop hs hloop <;> rfl

structure Calm (s : AState) : Prop where
  ph : calm s.phase = true
  rx : s.chan.rx = true
  nostop : cntP isStopP s = 0
  norst : cntP isRestartP s = 0
  strm : s.streamEnded = false

structure Gone (s : AState) : Prop where
  dead : Dead05 s
  none : ∀ b, extCnt b s = 0

def Unc (s : AState) : Prop := Calm s ∨ Gone s

def takes (b : Nat) : Label → Nat
  | .extBegin b' _ => if b = b' then 1 else 0
  | _ => 0

theorem takes_zero {b : Nat} (h : ∀ b' m, l ≠ .extBegin b' m) : takes b l = 0 := by
  cases l <;> first | rfl | exact absurd rfl (h _ _)

theorem step_extCnt_eq (b : Nat) (hs : step w s l = some s') (ht : l.terminates = false)
    (hl : ∀ b', l ≠ .extPush b') : extCnt b s = extCnt b s' + takes b l := by
  by_cases hx : ∃ b' m, l = .extBegin b' m
  · obtain ⟨b', m, rfl⟩ := hx
    exact stepExtBegin_extCnt hs b
  · have hne : ∀ b' m, l ≠ .extBegin b' m := fun b' m e => hx ⟨b', m, e⟩
    have hge := step_countP_ge (isExtP b) (fun pl hp => by cases hp <;> rfl) ht
      (n := 0) (fun pl m hb hp => by cases hb <;> first | cases hp | exact absurd rfl (hne _ _)) hs
    have hle := step_extCnt b hs hl
    rw [takes_zero hne]
    exact Nat.le_antisymm hge hle

theorem unc_step (hw : WellWired05 w) (hu : Unc s)
    (hs : step w s l = some s') (hcut : cuts l = false) (hl : ∀ b', l ≠ .extPush b') :
    Unc s' ∧ ∀ b, extCnt b s = extCnt b s' + takes b l := by
  rcases hu with hc | hg
  · obtain ⟨hterm, hph⟩ := calm_step hs hc.ph hcut
    refine ⟨?_, fun b => step_extCnt_eq b hs hterm hl⟩
    rcases hph with hph | ⟨e, rest, hq, he⟩ | ⟨hq, hna, hs'⟩ | hse
    · have hrx : s'.chan.rx = true := by
        rw [(step_chanOf hs).rx hterm]; exact hc.rx
      have h1 : cntP isStopP s' = 0 := by
        have := step_countP_le isStopP (fun _ => rfl) (n := 0) (hs := hs)
          fun pl _ h hp => by rw [(submits_not_cut h hcut).1] at hp; cases hp
        have := hc.nostop
        omega
      have h2 : cntP isRestartP s' = 0 := by
        have := step_countP_le isRestartP (fun _ => rfl) (n := 0) (hs := hs)
          fun pl _ h hp => by rw [(submits_not_cut h hcut).2] at hp; cases hp
        have := hc.norst
        omega
      exact .inl ⟨hph, hrx, h1, h2, by rw [streamEnded_step hs hcut]; exact hc.strm⟩
    · -- a stop or restart request at the head: there is none
      have h1 := hc.nostop
      have h2 := hc.norst
      simp only [cntP, hq, List.countP_cons] at h1 h2
      rcases he with he | he <;> simp [he, isStopP, isRestartP] at h1 h2
    · subst hs'
      exact .inr ⟨dead_step hw (dead_of_not_alive hw hna) hs, fun b => by simp [extCnt, cntP, hq]⟩
    · rw [hc.strm] at hse; cases hse
  · -- the loop has left for lack of holders: nothing arrives, nothing waits
    have hle : ∀ b, extCnt b s' = 0 := fun b => Nat.le_zero.mp (hg.none b ▸ step_extCnt b hs hl)
    refine ⟨.inr ⟨dead_step hw hg.dead hs, hle⟩, fun b => ?_⟩
    by_cases hx : ∃ b' m, l = .extBegin b' m
    · obtain ⟨b', m, rfl⟩ := hx
      have h1 := stepExtBegin_extCnt hs b'
      rw [hg.none b', if_pos rfl] at h1
      omega
    · rw [takes_zero fun b' m e => hx ⟨b', m, e⟩, hle b, hg.none b]

theorem unc_init (cfg : Cfg) (h0 : Nat) (k0 : HKind) : Unc (AState.init cfg h0 k0) :=
  .inl ⟨rfl, rfl, by simp [cntP, AState.init, Chan.init], by simp [cntP, AState.init, Chan.init], rfl⟩

theorem extCnt_init (cfg : Cfg) (h0 : Nat) (k0 : HKind) (b : Nat) : extCnt b (AState.init cfg h0 k0) = 0 := by
  simp [extCnt, cntP, AState.init, Chan.init]

theorem unc_quiet {pend : List Nat} (hu : Unc s)
    (hs : step w s (.quiescent pend) = some s') (b : Nat) : extCnt b s = 0 := by
  rcases hu with hc | hg
  · -- a quiet loop that still runs is parked on an empty mailbox
    have hq := (stepQuiescent_cases hs).1
    have hph := hc.ph
    simp only [quiet, Bool.and_eq_true] at hq
    cases hp : s.phase <;> simp [hp, calm] at hph <;> simp [hp] at hq
    simp [extCnt, cntP, hq.1.1.1.1]
  · exact hg.none b

end C16Q
end Hannibal
