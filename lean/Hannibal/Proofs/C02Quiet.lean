import Hannibal.Proofs.C02Wait2
import Hannibal.Proofs.C02Ret
/-
  C02 (d): at quiescence every remaining operation awaits or joins a live actor.
-/
namespace Hannibal
open AState

theorem parked_nil_of_wf {c : Chan} (h : c.WF) (hq : c.queue = []) : c.parked = [] := by
  unfold Chan.WF at h
  cases hc : c.cap <;> simp [hc, hq] at h <;> exact h

theorem not_done_of_latch_pending {s : AState} (ht : TermInv s) (hl : s.latch = .pending) : s.isDone = false := by
  have := ht.latch
  rw [hl] at this
  unfold isDone
  cases hp : s.phase <;> simp_all [latchOk]

/-- An operation that cannot return from a quiet state awaits or joins an actor that is not done.  The latch enters
    only through `hnd`: a pending latch belongs to a task that has not ended. -/
theorem quiet_op {s : AState} {fin : List Nat} (hqe : s.chan.queue = []) (hpk : s.chan.parked = [])
    (hph : s.phase = .idle ∨ s.isDone = true) (hnd : s.latch = .pending → s.isDone = false) (hwait : WaitInv s)
    {r : OpRec} (hr : r ∈ s.ops) (hst : stOk fin r.kind r.st = true) (hnone : s.retExpect r = none) :
    s.isDone = false ∧ (r.kind = .await ∨ r.kind = .join) := by
  have hcur : s.curSlot = [] := by
    unfold curSlot
    rcases hph with h | h
    · simp [h]
    · unfold isDone at h; split at h <;> simp_all
  have hslots : s.slotsLive = [] := by simp [slotsLive, hcur, hqe]
  have hstop : s.isDone = false → stopLive s = false := by
    intro hd
    rcases hph with h | h
    · simp [stopLive, h, pastLoop, hqe]
    · simp [hd] at h
  have hslot := hwait.slot r hr
  have hstp := hwait.stop r hr
  unfold retExpect at hnone
  cases hs : r.st <;> simp only [hs] at hnone hst
  case failed e => simp at hnone
  case pending =>
    cases hk : r.kind <;> simp only [hk] at hnone hst
    case send | trySend | tryForce => simp [Chan.isParked, hpk] at hnone
    case await | halt | tryHalt =>
      unfold latchRes at hnone
      cases hl : s.latch <;> simp [hl] at hnone
      have hd := hnd hl
      first
        | exact ⟨hd, .inl rfl⟩
        | (have := hstp (by simp [needsStop, hs, hk]); simp [hstop hd] at this)
    case join => simp [stOk] at hst
    case consume => simp [stOk] at hst
    all_goals
      (have := hslot (by simp [needsSlot, hs, hk, OpKind.isCall])
       simp [hslots] at this)
  case answered v =>
    cases hk : r.kind <;> simp [hk, stOk, OpKind.isCall] at hnone hst
  case pinged =>
    simp [stOk] at hst; simp [hst] at hnone
  case cancelled =>
    cases hk : r.kind <;> simp [hk, stOk, OpKind.isCall] at hnone hst
  case joining =>
    cases hd : s.isDone
    · refine ⟨rfl, ?_⟩
      cases hk : r.kind <;> simp [hk, stOk] at hst
      · exact .inr rfl
      · have := hstp (by simp [needsStop, hs, hk])
        simp [hstop hd] at this
    · simp only [hd, if_true] at hnone
      cases hk : r.kind <;> simp [hk, stOk] at hst <;> cases hres : s.result <;> simp [hk, hres] at hnone
  case joinNone =>
    cases hk : r.kind <;> simp [hk, stOk] at hnone hst

theorem quiet_facts {w : Wiring} {s : AState} (hq : s.quiet w = true) (hdc : DoneChan s) :
    s.chan.queue = [] ∧ (s.phase = .idle ∨ s.isDone = true) ∧ ∀ r ∈ s.ops, s.retExpect r = none := by
  unfold quiet at hq
  simp only [Bool.and_eq_true] at hq
  obtain ⟨⟨hph, _⟩, hops⟩ := hq
  have hops' : ∀ r ∈ s.ops, s.retExpect r = none := by
    intro r hr
    have := List.all_eq_true.mp hops r hr
    simpa using this
  cases hp : s.phase <;> simp [hp] at hph
  case idle =>
    exact ⟨by simpa using hph.1.1, .inl rfl, hops'⟩
  case done g =>
    have hd : s.isDone = true := by simp [isDone, hp]
    exact ⟨(hdc hd).2.1, .inr hd, hops'⟩

/-- (d): a `quiescent` label of the model is accepted -/
theorem quiescent_accept {w : Wiring} {s s' : AState} {σ : C02St} {pend : List Nat}
    (hs : s.stepQuiescent w pend = some s') (hops : ∀ r ∈ s.ops, opOk σ r = true) (hwait : WaitInv s)
    (hwf : s.chan.WF) (hdc : DoneChan s) (ht : TermInv s) (hterm : σ.terminated = s.isDone) :
    bad02 σ (.quiescent pend) = false := by
  obtain ⟨hq, hpend, -, -⟩ := stepQuiescent_cases hs
  obtain ⟨hqe, hph, hnone⟩ := quiet_facts hq hdc
  have hpk := parked_nil_of_wf hwf hqe
  simp only [bad02, Bool.not_eq_false', List.all_eq_true]
  intro o ho
  cases hfo : s.findOp o with
  | none => have := hpend o ho; simp [hfo] at this
  | some r =>
    obtain ⟨hr, hro⟩ := findOp_some_mem hfo
    obtain ⟨late, h1, _, _, h4⟩ := opOk_parts (hops r hr)
    rw [hro] at h1
    simp only [h1]
    obtain ⟨hd, hk⟩ := quiet_op hqe hpk hph (not_done_of_latch_pending ht) hwait hr h4 (hnone r hr)
    rw [hterm, hd]
    rcases hk with hk | hk <;> simp [pendOk, hk]

theorem slotCb_of_phaseOk {σ : C02St} {p : Phase} (h : phaseOk σ p = true) : slotCb p = true := by
  cases p <;> first | rfl | skip
  rename_i cb slot dl
  cases slot with
  | none => cases cb <;> rfl
  | some o => obtain ⟨m, rfl, -⟩ := phaseOk_handling h; rfl

end Hannibal
