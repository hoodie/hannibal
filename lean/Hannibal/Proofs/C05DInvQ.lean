import Hannibal.Props.C05Q
import Hannibal.Proofs.C05DInvF
/-
  C05 (drain completeness for dropped calls): the coupling behind clause (q).  The `q` component of the state of
  `monC05d` is the state of `monC05q`, whose coupling (`C05qInv`) already accounts for the message of every recorded
  operation whose submission went through; here the message of every dropped call stays accounted for.
-/
namespace Hannibal
open AState

theorem wf01_c02wf05d {c : MonCtx} {g : Wf01St} {l : Label} (hg : wfBad g l = false) :
    (monC02wf c).step g.seenO l = some (wfNext g l).seenO := by
  cases l <;> try rfl
  case begin o h k =>
    have ho := (wfBad_begin05d hg).1
    have : g.seenO.contains o = false := by simpa using ho
    simp [monC02wf, wfNext, ho]
  case fire t mo => cases mo <;> rfl

structure Q05d (w : Wiring) (c : MonCtx) (s : AState) (σ : C05dSt) (σ1 : C01St) (g : Wf01St) (σ5 : C05St)
    (σ2 : C02St) : Prop where
  f : F05d s σ σ1 g
  iq : C05qInv w c s σ.q σ5 σ2
  seen : SeenOk σ2 g.seenO
  dacc : excused c σ.q = false → ∀ d ∈ σ.dropped, Acc s σ.q d

theorem q05d_init (w : Wiring) (c : MonCtx) :
    Q05d w c (AState.init c.cfg c.h0 c.k0) (monC05d c).init (monC01 c).init monWf01.init (monC05 c).init
      C02St.init :=
  ⟨f05d_init c, c05q_init w c, fun o ho => by simp [C02St.init, lookup] at ho, fun _ d hd => by simp [monC05d] at hd⟩

variable {w : Wiring} {c : MonCtx} {s s' : AState} {σ : C05dSt} {σ1 : C01St} {g : Wf01St} {σ5 : C05St}
  {σ2 : C02St} {l : Label}

/-- a call whose future is dropped had its submission go through, so its message was accounted for already -/
theorem dacc_step (hi : Q05d w c s σ σ1 g σ5 σ2) (hs : step w s l = some s')
    (hok : ∀ o, l = .cdrop o → s.cdropOk o = true) (he' : excused c (next05q c σ.q l) = false) :
    ∀ d ∈ (next05d c σ l).dropped, Acc s' (next05q c σ.q l) d := by
  have he := excused_next he'
  intro d hd
  rcases mem_dropped_next hd with hd | ⟨o, rfl, hl⟩
  · exact acc_step hi.iq hs he' (hi.dacc he d hd)
  · obtain ⟨rec, hrec, hm, -, hnf⟩ := cdrop_msg05d hi.f hs (hok o rfl) hl
    exact acc_step hi.iq hs he' (hi.iq.live he rec hrec hnf d hm)

/-- clause (q): a `quiescent` label of the model is accepted -/
theorem quiescent_ok05d (hw : WellWired05 w) {pend : List Nat} (hi : Q05d w c s σ σ1 g σ5 σ2)
    (hs : s.stepQuiescent w pend = some s') : bad05dq c σ (.quiescent pend) = false := by
  cases hb : bad05dq c σ (.quiescent pend)
  · rfl
  · obtain ⟨hsh, hex, hconc⟩ := guard05q hb
    have hp := quiet_done hw hi.iq (stepQuiescent_cases hs).1 hsh hex
    have hall : σ.dropped.all (fun m => σ.q.handled.contains m) = true := by
      rw [List.all_eq_true]
      intro m hm
      rcases hi.dacc hex m hm with h | ⟨h, -⟩
      · simpa using h
      · simp [hp, pastLoop] at h
    rw [hall] at hconc
    cases hconc

theorem q05d_step (hw : WellWired05 w) (c : MonCtx) (hi : Q05d w c s σ σ1 g σ5 σ2) (hs : step w s l = some s')
    (hg : wfBad g l = false) (hok : ∀ o, l = .cdrop o → s.cdropOk o = true) :
    bad05d c σ l = false ∧
      Q05d w c s' (next05d c σ l) (next01 σ1 l) (wfNext g l) (next05 c σ5 l) (next02 σ2 l) := by
  obtain ⟨hbf, hf'⟩ := f05d_step w c hi.f hs hg hok
  have hws := wf01_c02wf05d (c := c) hg
  obtain ⟨-, hiq'⟩ := c05q_step hw hi.iq (wf_fresh hi.seen hws) hs
  have hbq : bad05dq c σ l = false := by
    cases l <;> first | rfl | exact quiescent_ok05d hw hi hs
  exact ⟨by rw [bad05d_split, hbf, hbq]; rfl, hf', hiq', wf_seen hi.seen hws, dacc_step hi hs hok⟩

end Hannibal
