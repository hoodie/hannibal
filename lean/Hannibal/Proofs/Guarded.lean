import Hannibal.Proofs.Run
/-
  Guarded runs (the acceptor's notion of a run: nothing happens to an actor between its loop's return and
  the end of its task, nor between `stopped` and `started` of a restart) are runs.  Hence every theorem
  about all runs holds of all guarded runs.
-/
namespace Hannibal

theorem gstep_step {w : Wiring} {s s' : AState} {l : Label} (h : gstep w s l = some s') : step w s l = some s' := by
  unfold gstep at h
  split at h
  · exact h
  · simp at h

theorem gstep_allows {w : Wiring} {s s' : AState} {l : Label} (h : gstep w s l = some s') :
    s.phase.allows l = true := by
  unfold gstep at h
  split at h
  · assumption
  · simp at h

theorem grun_folds (w : Wiring) : Folds (gstep w) (grun w) :=
  ⟨fun _ => rfl, fun s l _ => by rw [grun]; cases gstep w s l <;> rfl⟩

theorem grun_run {w : Wiring} : ∀ (ls : List Label) (s s' : AState), grun w s ls = some s' → run w s ls = some s' :=
  fun ls s s' h => by
    obtain ⟨_, hr, rfl⟩ :=
      (grun_folds w).sim (run_folds w) Eq (fun _ a' _ _ hab hg => ⟨a', hab ▸ gstep_step hg, rfl⟩) ls s s' s rfl h
    exact hr

end Hannibal
