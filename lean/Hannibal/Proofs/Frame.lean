import Hannibal.Proofs.Latch
import Hannibal.Proofs.Chan
import Hannibal.Monitor.Basic
/-
  Projection: what one step of the actor model does to its mailbox is one step
  of the `Chan` model (or nothing), and the mailbox is closed and empty once the loop task has ended.
-/
namespace Hannibal
open AState

inductive ChanStep (c c' : Chan) : Prop where
  | same (h : c' = c)
  | enq (e : Entry) (hrx : c.rx = true) (h : c' = c.enq e)
  | deq (hrx : c.rx = true) (h : c' = c.deq)
  | drop (h : c' = c.dropRx)
  | rename (pl pl' : Payload) (tok : Tok) (rest : List Entry)
      (hq : c.queue = { pl, tok } :: rest) (h : c' = { c with queue := { pl := pl', tok } :: rest })

theorem ChanStep.wf {c c'} (h : ChanStep c c') (hw : c.WF) : c'.WF := by
  cases h with
  | same h => rw [h]; exact hw
  | enq e _ h => rw [h]; exact Chan.wf_enq _ _ hw
  | deq _ h => rw [h]; exact Chan.wf_deq _ hw
  | drop h => rw [h]; exact Chan.wf_dropRx _
  | rename pl pl' tok rest hq h => rw [h]; exact Chan.wf_rename _ _ _ _ _ hq hw

theorem ChanStep.cap {c c'} (h : ChanStep c c') : c'.cap = c.cap := by
  cases h with
  | same h => rw [h]
  | enq e _ h => rw [h]; simp
  | deq _ h => rw [h]; rfl
  | drop h => rw [h]; rfl
  | rename pl pl' tok rest hq h => rw [h]

@[simp] theorem beginWait_chan (s : AState) (o h k j) : (s.beginWait o h k j).chan = s.chan := by
  unfold beginWait; split
  · split <;> rfl
  · rfl

@[simp] theorem retEffect_chan (s : AState) (r) : (s.retEffect r).chan = s.chan := by
  unfold retEffect
  simp only
  split <;> split <;> split <;> rfl

def payloadOf (o : Nat) : OpKind → Payload
  | .send m | .trySend m | .tryForce m => .msg m none
  | .call m | .callw m | .tryCall m => .msg m (some o)
  | .ping => .ping o
  | _ => .stop

theorem plan_pl (w : Wiring) (hk : HKind) (o : Nat) (k : OpKind) (pl : Payload)
    (h : (plan w hk o k).pl = some pl) : pl = payloadOf o k ∧ k ≠ .await ∧ k ≠ .join := by
  cases k <;> simp [plan] at h <;> simp [payloadOf, h]

/-- `Submits l pl tok`: a step at `l` whose submission goes through appends an entry with payload `pl`; `tok` is
    the token its sender parks on the waiting path. -/
inductive Submits : Label → Payload → Tok → Prop
  | op (o h k) {pl} (hk : k ≠ .await ∧ k ≠ .join) (hp : pl = payloadOf o k) : Submits (.begin o h k) pl (.op o)
  | stopReq (h) : Submits (.stopReq h true) .stop .stale
  | restartReq (h) : Submits (.restartReq h true) .restart .stale
  | ctxStop : Submits (.ctxStop true) .stop .stale
  | ctxRestart : Submits (.ctxRestart true) .restart .stale
  | fire (t n) : Submits (.fire t (some n)) (.msg n none) (.timer t)
  | tick (t due) : Submits (.timerArm t due) (.tick t) (.timer t)
  | ext (b) : Submits (.extPush b) (.ext b) .stale

def Label.submits : Label → Bool
  | .begin _ _ _ | .stopReq _ true | .restartReq _ true | .ctxStop true | .ctxRestart true | .fire _ (some _)
  | .timerArm _ _ | .extPush _ => true
  | _ => false

theorem Submits.label {l pl tok} (h : Submits l pl tok) : l.submits = true := by cases h <;> rfl

inductive Takes : Label → Payload → Prop
  | handle (m slot) : Takes (.cbBegin (.handle m)) (.msg m slot)
  | stop : Takes .tDeq .stop
  | restart : Takes .tDeq .restart
  | ping (o) : Takes .tDeq (.ping o)

/-- at `l` the loop reaches payload `pl` (a tick, a broadcast) at the head: it is message `m` from now on -/
inductive Binds : Label → Payload → Nat → Prop
  | tick (t m) : Binds (.tickBegin t m) (.tick t) m
  | ext (b m) : Binds (.extBegin b m) (.ext b) m

/-- the labels that never leave the mailbox as it is: the loop takes or binds the head entry, or its task ends -/
def Label.movesChan : Label → Bool
  | .cbBegin (.handle _) | .tDeq | .tickBegin _ _ | .extBegin _ _ | .cancel | .taskDone | .taskPanic => true
  | _ => false

/-- What a step at `l` does to the mailbox: nothing; the label's submission goes to the back (on the forcing path
    the token left behind is stale); the loop takes the head entry; the head entry is bound to a message id; the
    end of the loop task drops the receiver. -/
inductive ChanOf (l : Label) (c c' : Chan) : Prop
  | same (hl : l.movesChan = false) (h : c' = c)
  | enq (pl tok t) (hl : Submits l pl tok) (ht : t = tok ∨ t = .stale) (hrx : c.rx = true)
      (h : c' = c.enq { pl, tok := t })
  | deq (pl tok rest) (hl : Takes l pl) (hq : c.queue = { pl, tok } :: rest) (hrx : c.rx = true) (h : c' = c.deq)
  | bind (pl m tok rest) (hl : Binds l pl m) (hq : c.queue = { pl, tok } :: rest)
      (h : c' = { c with queue := { pl := .msg m none, tok } :: rest })
  | drop (hl : l.terminates = true) (h : c' = c.dropRx)

theorem ChanOf.of_push {l pl tok path} {s : AState} (hl : Submits l pl tok) (hrx : s.chan.rx = true) :
    ChanOf l s.chan (s.push pl path tok).chan :=
  .enq pl tok _ hl (by split <;> simp) hrx rfl

theorem step_chanOf {w s l s'} (hs : step w s l = some s') : ChanOf l s.chan s'.chan := by
  cases hl : l.isLoop
  · cases l <;> first | (cases hl; done) | skip
    all_goals simp only [step] at hs
    case begin o h k =>
      obtain ⟨hk, -, -, -, ⟨-, rfl⟩ | ⟨-, -, rfl⟩ | ⟨pl, -, hpl, hrx, rfl⟩ | ⟨pl, -, -, -, rfl⟩⟩ := stepBegin_cases hs
      · exact .same rfl rfl
      · exact .same rfl (beginWait_chan ..)
      · obtain ⟨rfl, hk⟩ := plan_pl _ _ _ _ _ hpl
        rw [beginWait_chan]; exact .of_push (.op o h k hk rfl) hrx
      · exact .same rfl rfl
    case ret o r => obtain ⟨rec, -, -, rfl⟩ := stepRet_cases hs; exact .same rfl (retEffect_chan ..)
    case cdrop o => obtain ⟨rec, -, rfl⟩ := stepCdrop_cases hs; exact .same rfl (by split <;> rfl)
    case mk h h' k' => obtain ⟨k, -, -, -, rfl⟩ := stepMk_cases hs; exact .same rfl rfl
    case upgrade h h' =>
      obtain ⟨k, ks, -, -, ⟨n, -, -, -, rfl⟩ | ⟨-, -, rfl⟩⟩ := stepUpgrade_cases hs <;> exact .same rfl rfl
    case detach h h' => obtain ⟨-, -, rfl⟩ := stepDetach_cases hs; exact .same rfl rfl
    case drop h => obtain ⟨-, rfl⟩ := stepDrop_cases hs; exact .same rfl rfl
    case stopReq h ok =>
      obtain ⟨-, ⟨rfl, hrx, rfl⟩ | ⟨-, rfl⟩⟩ := stepSignal_cases hs
      · exact .of_push (.stopReq h) hrx
      · exact .same rfl rfl
    case restartReq h ok =>
      obtain ⟨-, ⟨rfl, hrx, rfl⟩ | ⟨-, rfl⟩⟩ := stepSignal_cases hs
      · exact .of_push (.restartReq h) hrx
      · exact .same rfl rfl
    case query h b => obtain rfl := stepQuery_cases hs; exact .same rfl rfl
    case work d => obtain ⟨-, -, rfl⟩ := stepWork_cases hs; exact .same rfl rfl
    case ctxStop ok =>
      obtain ⟨-, ⟨rfl, -, hrx, rfl⟩ | ⟨-, -, rfl⟩⟩ := stepCtxSignal_cases hs
      · exact .of_push .ctxStop hrx
      · exact .same rfl rfl
    case ctxRestart ok =>
      obtain ⟨-, ⟨rfl, -, hrx, rfl⟩ | ⟨-, -, rfl⟩⟩ := stepCtxSignal_cases hs
      · exact .of_push .ctxRestart hrx
      · exact .same rfl rfl
    case ctxTimer t k d => obtain ⟨-, -, rfl⟩ := stepCtxTimer_cases hs; exact .same rfl rfl
    case ctxWeak k h =>
      obtain ⟨-, ⟨n, -, -, -, -, rfl⟩ | ⟨-, -, -, rfl⟩⟩ := stepCtxWeak_cases hs <;> exact .same rfl rfl
    case fire t m =>
      obtain ⟨x, due, -, -, -, ⟨-, -, rfl⟩ | ⟨n, -, rfl, ⟨-, hrx, rfl⟩ | ⟨-, rfl⟩⟩⟩ := stepFire_cases hs
      · exact .same rfl rfl
      · exact .of_push (.fire t n) hrx
      · exact .same rfl rfl
    case timerArm t due =>
      obtain ⟨x, -, -, ⟨-, rfl⟩ | ⟨old, -, -, -, -, hrx, rfl⟩ | ⟨-, -, -, rfl⟩⟩ := stepTimerArm_cases hs
      · exact .same rfl rfl
      · exact .of_push (.tick t due) hrx
      · exact .same rfl rfl
    case timerEnd t => obtain ⟨x, -, rfl, -⟩ := stepTimerEnd_cases hs; exact .same rfl rfl
    case tickBegin t m =>
      obtain ⟨tok, rest, -, hq, rfl⟩ := stepTickBegin_cases hs; exact .bind _ m tok rest (.tick t m) hq rfl
    case extPush b =>
      obtain ⟨hrx, rfl⟩ | ⟨-, rfl⟩ := stepExtPush_cases hs
      · exact .of_push (.ext b) hrx
      · exact .same rfl rfl
    case extBegin b m =>
      obtain ⟨tok, rest, -, hq, rfl⟩ := stepExtBegin_cases hs; exact .bind _ m tok rest (.ext b m) hq rfl
    case time t => obtain ⟨-, -, rfl⟩ := stepTime_cases hs; exact .same rfl rfl
    case streamReady k => obtain ⟨-, -, rfl⟩ := stepStreamReady_cases hs; exact .same rfl rfl
    case streamEnd => obtain ⟨-, -, rfl⟩ := stepStreamEnd_cases hs; exact .same rfl rfl
    case quiescent pend => obtain ⟨-, -, -, rfl⟩ := stepQuiescent_cases hs; exact .same rfl rfl
  · cases step_loop hs hl
    case handle m slot tok rest hp hq hrx => exact .deq _ tok rest (.handle m slot) hq hrx rfl
    case ping e rest o hp hq hrx he => exact .deq _ e.tok rest (he ▸ .ping o) hq hrx rfl
    case stop e rest hp hq hrx he => exact .deq _ e.tok rest (he ▸ .stop) hq hrx rfl
    case restartIgnored e rest hp hq hrx he _ _ => exact .deq _ e.tok rest (he ▸ .restart) hq hrx rfl
    case restartTaken e rest hp hq hrx he _ _ => exact .deq _ e.tok rest (he ▸ .restart) hq hrx rfl
    -- `panicRestart` takes the restart request out first: `c.deq.dropRx` is `c.dropRx`
    case cancel | doneOk | doneErr | panicErr | panicRestart => exact .drop rfl rfl
    all_goals exact .same rfl rfl

theorem ChanOf.toChanStep {l c c'} (h : ChanOf l c c') : ChanStep c c' := by
  cases h with
  | same _ h => exact .same h
  | enq pl tok t _ _ hrx h => exact .enq _ hrx h
  | deq pl tok rest _ _ hrx h => exact .deq hrx h
  | bind pl m tok rest _ hq h => exact .rename _ _ tok rest hq h
  | drop _ h => exact .drop h

theorem step_chan {w s l s'} (hs : step w s l = some s') : ChanStep s.chan s'.chan :=
  (step_chanOf hs).toChanStep

theorem ChanOf.plain {l c c'} (h : ChanOf l c c') (hm : l.movesChan = false) :
    c' = c ∨ ∃ pl tok t, Submits l pl tok ∧ (t = tok ∨ t = .stale) ∧ c.rx = true ∧ c' = c.enq { pl, tok := t } := by
  cases h with
  | same _ h => exact .inl h
  | enq pl tok t hl ht hrx h => exact .inr ⟨pl, tok, t, hl, ht, hrx, h⟩
  | deq _ _ _ hl => cases hl <;> cases hm
  | bind _ _ _ _ hl => cases hl <;> cases hm
  | drop hl => cases l <;> first | (cases hl; done) | cases hm

theorem ChanOf.eq {l c c'} (h : ChanOf l c c') (hs : l.submits = false) (hm : l.movesChan = false) : c' = c :=
  (h.plain hm).elim id fun ⟨_, _, _, hl, _⟩ => absurd hl.label (by simp [hs])

theorem ChanOf.takes {l c c' pl₀} (h : ChanOf l c c') (hl : Takes l pl₀) :
    ∃ pl tok rest, Takes l pl ∧ c.queue = { pl, tok } :: rest ∧ c.rx = true ∧ c' = c.deq := by
  cases h with
  | deq pl tok rest ht hq hrx h => exact ⟨pl, tok, rest, ht, hq, hrx, h⟩
  | same hm => cases hl <;> cases hm
  | enq _ _ _ hs => cases hl <;> cases hs
  | bind _ _ _ _ hb => cases hl <;> cases hb
  | drop ht => cases hl <;> cases ht

theorem ChanOf.binds {l c c' pl m} (h : ChanOf l c c') (hl : Binds l pl m) :
    ∃ tok rest, c.queue = { pl, tok } :: rest ∧ c' = { c with queue := { pl := .msg m none, tok } :: rest } := by
  cases h with
  | bind pl' m' tok rest hb hq h => cases hl <;> cases hb <;> exact ⟨tok, rest, hq, h⟩
  | same hm => cases hl <;> cases hm
  | enq _ _ _ hs => cases hl <;> cases hs
  | deq _ _ _ ht => cases hl <;> cases ht
  | drop ht => cases hl <;> cases ht

theorem ChanOf.drops {l c c'} (h : ChanOf l c c') (hl : l.terminates = true) : c' = c.dropRx := by
  cases h with
  | drop _ h => exact h
  | same hm => cases l <;> first | (cases hl; done) | cases hm
  | enq _ _ _ hs => cases hs <;> cases hl
  | deq _ _ _ ht => cases ht <;> cases hl
  | bind _ _ _ _ hb => cases hb <;> cases hl

theorem ChanOf.rx {l c c'} (h : ChanOf l c c') (ht : l.terminates = false) : c'.rx = c.rx := by
  cases h with
  | same _ h => rw [h]
  | enq pl tok t _ _ _ h => rw [h, Chan.enq_rx]
  | deq pl tok rest _ _ _ h => rw [h]; rfl
  | bind pl m tok rest _ _ h => rw [h]
  | drop hl _ => rw [ht] at hl; cases hl

theorem Submits.of_tick {l t tok} (h : Submits l (.tick t) tok) : ∃ due, l = .timerArm t due := by
  cases h with
  | op _ _ k _ hp => cases k <;> cases hp
  | tick _ due => exact ⟨due, rfl⟩

theorem Submits.of_ext {l b tok} (h : Submits l (.ext b) tok) : l = .extPush b := by
  cases h with
  | op _ _ k _ hp => cases k <;> cases hp
  | ext => rfl

def cntP (P : Payload → Bool) (s : AState) : Nat := s.chan.queue.countP (fun e => P e.pl)

/-- Entries satisfying `P` waiting in the mailbox: one step adds at most `n`, if `n` accounts for every payload
    satisfying `P` that the label can submit. -/
theorem step_countP_le {w s l s'} (P : Payload → Bool) (hmsg : ∀ m, P (.msg m none) = false) {n : Nat}
    (hn : ∀ pl tok, Submits l pl tok → P pl = true → 1 ≤ n) (hs : step w s l = some s') :
    cntP P s' ≤ cntP P s + n := by
  unfold cntP
  cases step_chanOf hs with
  | same _ h => rw [h]; omega
  | enq pl tok t hl _ _ h =>
    rw [h, Chan.enq_queue, List.countP_append, List.countP_singleton]
    split
    · have := hn _ _ hl ‹_›; omega
    · omega
  | deq pl tok rest _ hq _ h =>
    rw [h]; show List.countP _ s.chan.queue.tail ≤ _
    rw [hq, List.tail_cons, List.countP_cons]; omega
  | bind pl m tok rest _ hq h => rw [h, hq]; simp only [List.countP_cons, hmsg, Bool.false_eq_true, if_false]; omega
  | drop _ h => rw [h]; exact Nat.zero_le _

/-- Entries satisfying `P` leave the mailbox only at the head: taken by the loop, bound to a message id (`n`
    accounts for that), or with the mailbox itself at the end of the task. -/
theorem step_countP_ge {w s l s'} (P : Payload → Bool) (hdeq : ∀ pl, Takes l pl → P pl = false)
    (ht : l.terminates = false) {n : Nat} (hn : ∀ pl m, Binds l pl m → P pl = true → 1 ≤ n)
    (hs : step w s l = some s') : cntP P s ≤ cntP P s' + n := by
  unfold cntP
  cases step_chanOf hs with
  | same _ h => rw [h]; omega
  | enq pl tok t _ _ _ h => rw [h, Chan.enq_queue, List.countP_append]; omega
  | deq pl tok rest hl hq _ h =>
    rw [h]; show _ ≤ List.countP _ s.chan.queue.tail + _
    rw [hq, List.tail_cons, List.countP_cons, hdeq pl hl]; simp
  | bind pl m tok rest hl hq h =>
    rw [h, hq]; simp only [List.countP_cons]
    cases hp : P pl
    · exact Nat.le_trans (Nat.le_add_right _ _) (Nat.le_add_right _ _)
    · have := hn pl m hl hp; simp; omega
  | drop ht' => rw [ht] at ht'; cases ht'

/-- once the loop task is gone the mailbox is closed and empty (`Receiver::drop`) -/
def DoneChan (s : AState) : Prop := s.isDone = true → s.chan.rx = false ∧ s.chan.queue = [] ∧ s.chan.parked = []

theorem doneChan_init (cfg : Cfg) (h0 : Nat) (k0 : HKind) : DoneChan (AState.init cfg h0 k0) :=
  fun h => Bool.noConfusion h

theorem doneChan_step {w s l s'} (hs : step w s l = some s') (hi : DoneChan s) : DoneChan s' := by
  intro hd
  cases ht : l.terminates
  · obtain ⟨hrx, hq, hp⟩ := hi ((step_isDone w hs).2 ht ▸ hd)
    cases step_chanOf hs with
    | same _ h => rw [h]; exact ⟨hrx, hq, hp⟩
    | enq _ _ _ _ _ h' | deq _ _ _ _ _ h' => rw [hrx] at h'; cases h'
    | bind _ _ _ _ _ h' => rw [hq] at h'; cases h'
    | drop ht' => rw [ht] at ht'; cases ht'
  · rw [(step_chanOf hs).drops ht]; exact ⟨rfl, rfl, rfl⟩

end Hannibal
