import Hannibal.Monitor.C11T
import Hannibal.Proofs.Run
/-
  `monC11t` is the timing part of `monC11p`: it takes the same decisions on every label but `ret`
  (the third clause of `monC11p`, "the caller of an abandoned invocation receives an error").
-/
namespace Hannibal

def proj11t (st : C11pSt) : C11tSt := { clock := st.clock, cur := st.cur, cancelled := st.cancelled }

def isRet11t : Label → Bool
  | .ret _ _ => true
  | _ => false

/-- with `bif` the decision can be rewritten and case-split without a `Decidable` instance to keep in step -/
theorem monC11t_step (c : MonCtx) (σ : C11tSt) (l : Label) :
    (monC11t c).step σ l = bif bad11t c σ l then none else some (next11t c σ l) := by
  show (if bad11t c σ l = true then _ else _) = _
  cases bad11t c σ l <;> rfl

theorem monC11p_step_eq11t (c : MonCtx) (st : C11pSt) {l : Label} (hl : isRet11t l = false) :
    ((monC11p c).step st l).map proj11t = (monC11t c).step (proj11t st) l := by
  -- `monC11t` branches on `cur`, the timeout and `cancelled` exactly as `monC11p` does
  obtain ⟨clock, cur, ops, abandoned, cancelled⟩ := st
  rw [monC11t_step]
  cases l <;> first | rfl | skip
  case ret => cases hl
  case begin o h k => cases k <;> rfl
  case cbBegin cb => cases cb <;> rfl
  case work d => rcases cur with _ | ⟨m, b, w⟩ <;> rfl
  case cbEnd cb ok =>
    cases cb <;> first | rfl | skip
    dsimp only [monC11p, bad11t, next11t, proj11t]
    generalize tmoOf c.cfg = tmo
    cases tmo <;> rcases cur with _ | ⟨m, b, w⟩ <;> first | rfl | skip
    dsimp only
    cases (c.prompt && decide (w > _)) <;> rfl
  case cbAbandon cb =>
    cases cb <;> first | rfl | skip
    dsimp only [monC11p, bad11t, next11t, proj11t]
    generalize tmoOf c.cfg = tmo
    cases tmo <;> cases cancelled <;> rcases cur with _ | ⟨m, b, w⟩ <;> first | rfl | skip
    dsimp only
    cases (c.prompt && (decide (w < _) || clock != b + _)) <;> rfl

theorem monC11p_ret11t (c : MonCtx) {st st' : C11pSt} {o : Nat} {r : Res}
    (h : (monC11p c).step st (.ret o r) = some st') : st' = st := by
  dsimp only [monC11p] at h
  split at h
  · split at h <;> cases h
    rfl
  · cases h; rfl

theorem monC11p_step_proj11t (c : MonCtx) {st st' : C11pSt} {l : Label}
    (h : (monC11p c).step st l = some st') : (monC11t c).step (proj11t st) l = some (proj11t st') := by
  cases hl : isRet11t l
  · rw [← monC11p_step_eq11t c st hl, h]; rfl
  · cases l <;> first | cases hl | skip
    rw [monC11p_ret11t c h]; rfl

theorem monC11p_ok_imp_monC11t (c : MonCtx) (ls : List Label) (h : (monC11p c).ok ls = true) :
    (monC11t c).ok ls = true := by
  obtain ⟨st', hr⟩ := Option.isSome_iff_exists.mp h
  obtain ⟨_, hm, -⟩ := (monC11p c).run_folds.sim (monC11t c).run_folds (fun st σ => σ = proj11t st)
    (fun _ _ _ _ hσ hs => ⟨_, hσ ▸ monC11p_step_proj11t c hs, rfl⟩) ls _ st' _ rfl hr
  exact Option.isSome_iff_exists.mpr ⟨_, hm⟩

theorem monC11p_run_eq11t (c : MonCtx) : ∀ (ls : List Label) (st : C11pSt), ls.all (fun l => !isRet11t l) = true →
    ((monC11p c).run st ls).map proj11t = (monC11t c).run (proj11t st) ls
  | [], _, _ => rfl
  | l :: ls, st, hl => by
    simp only [List.all_cons, Bool.and_eq_true, Bool.not_eq_eq_eq_not, Bool.not_true] at hl
    have h := monC11p_step_eq11t c st hl.1
    simp only [Mon.run]
    cases hs : (monC11p c).step st l with
    | none => rw [hs] at h; rw [← h]; rfl
    | some st1 => rw [hs] at h; rw [← h]; exact monC11p_run_eq11t c ls st1 hl.2

/-- On traces without `ret` labels (where the third clause of `monC11p` says nothing) the two monitors agree. -/
theorem monC11p_eq_monC11t_of_noRet (c : MonCtx) (ls : List Label)
    (hl : ls.all (fun l => !isRet11t l) = true) : (monC11p c).ok ls = (monC11t c).ok ls := by
  unfold Mon.ok
  rw [show (monC11t c).init = proj11t (monC11p c).init from rfl, ← monC11p_run_eq11t c ls _ hl, Option.isSome_map]

end Hannibal
