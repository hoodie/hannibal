import Hannibal.Proofs.C02Step
/-
  C02: a `ret` the model allows is accepted by the monitor (clauses: no double return, (a), (c)).
-/
namespace Hannibal
open AState

theorem replyOk_of_expect {s : AState} {fin : List Nat} {rec : OpRec} {res : Res}
    (hexp : s.retExpect rec = some res) (hst : stOk fin rec.kind rec.st = true) :
    replyOk fin rec.kind res = true := by
  cases retExpect_row hexp with
  | answered v h hk =>
    rw [h] at hst
    simp only [stOk, Bool.and_eq_true, beq_iff_eq] at hst
    simp only [replyOk, hst.1.2, hst.2, hk, beq_self_eq_true, Bool.and_self]
  | _ => rfl

theorem lateOk_of_expect {s : AState} {fin : List Nat} {g : Bool} {rec : OpRec} {res : Res}
    (hexp : s.retExpect rec = some res) (hlate : lateSt rec.kind rec.st = true)
    (hst : stOk fin rec.kind rec.st = true) (hfired : s.latch = .fired → g = true) :
    lateOk g rec.kind res = true := by
  cases retExpect_row hexp with
  | failed e h => rw [h] at hst; cases hk : rec.kind <;> simp_all [lateOk, stOk, Res.isErr]
  | sent h hk => rw [h] at hlate; simp only [lateSt, beq_iff_eq] at hlate; rw [hlate] at hk; cases hk
  | fired h _ hl => rw [h] at hlate; simp only [lateSt, beq_iff_eq] at hlate; simp [lateOk, hlate, hfired hl]
  | dropped h =>
    rw [h] at hlate; simp only [lateSt, beq_iff_eq] at hlate; cases g <;> simp [lateOk, hlate, Res.isErr]
  | answered _ h | pinged h | cancelled h => rw [h] at hlate; cases hlate
  | joined _ h | joinedNone h | joinNone h =>
    rw [h] at hlate; simp only [lateSt, beq_iff_eq] at hlate; simp [lateOk, hlate]
  | consumedNone h _ hk | consumeNone h hk =>
    rw [h] at hlate; simp only [lateSt, beq_iff_eq] at hlate; rw [hlate] at hk; cases hk

theorem ret_accept {s : AState} {σ : C02St} {o : Nat} {res : Res} {rec : OpRec}
    (hfind : s.findOp o = some rec) (hexp : s.retExpect rec = some res) (hok : opOk σ rec = true)
    (ht : TermInv s) (hg : gracefulEnd s.phase = true → σ.graceful = true) :
    bad02 σ (.ret o res) = false := by
  obtain ⟨_, hro⟩ := findOp_some_mem hfind
  obtain ⟨late, h1, h2, h3, h4⟩ := opOk_parts hok
  rw [hro] at h1 h2
  simp only [bad02, h1, h2, Bool.false_or]
  have hA := replyOk_of_expect hexp h4
  cases late
  · simp [hA]
  · have hB := lateOk_of_expect (g := σ.graceful) hexp (h3 rfl) h4 (by
      intro hl
      have := ht.latch
      rw [hl] at this
      exact hg (by rw [latchOk_fired this]; rfl))
    simp [hA, hB]

end Hannibal
