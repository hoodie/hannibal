import Hannibal.Monitor.C04
import Hannibal.Proofs.C01Mon
import Hannibal.Proofs.C05Queue
/-
  `monC04q` in guard / update form: `(monC04q c).step σ l = if bad04q c σ l then none else some (next04q c σ l)`.
-/
namespace Hannibal

def opsNext4 (ops : List (Nat × OpKind)) : Label → List (Nat × OpKind)
  | .begin o _ k => (o, k) :: ops
  | _ => ops

def issuedNext (b : Bool) : Label → Bool
  | .begin _ _ k => b || isStopKind k
  | .stopReq _ _ | .ctxStop _ => true
  | _ => b

def haltKind : OpKind → Bool
  | .halt | .tryHalt => true
  | _ => false

def acceptedNext (σ : C04qSt) : Label → Bool
  | .stopReq _ ok | .ctxStop ok => σ.stopAccepted || ok
  | .ret o r =>
    (match lookup o σ.ops with
     | some k => σ.stopAccepted || (haltKind k && r == .ok)
     | none => σ.stopAccepted)
  | _ => σ.stopAccepted

def sendMsg? : OpKind → Option Nat
  | .send m | .trySend m | .tryForce m => some m
  | _ => none

def callMsg? : OpKind → Option Nat
  | .call m | .callw m | .tryCall m => some m
  | _ => none

def sentOkNext (σ : C04qSt) : Label → List Nat
  | .ret o r =>
    (match (lookup o σ.ops).bind sendMsg? with
     | some m => if r == .ok && !σ.stopIssued then m :: σ.sentOk else σ.sentOk
     | none => σ.sentOk)
  | _ => σ.sentOk

def lateNext (σ : C04qSt) : Label → List Nat
  | .begin _ _ k =>
    (match k.msg? with
     | some m => if σ.stopAccepted then m :: σ.late else σ.late
     | none => σ.late)
  | _ => σ.late

def failureNext (c : MonCtx) (σ : C04qSt) (l : Label) : Bool :=
  if failsActor c.cfg.failOnTimeout l then true else σ.failure

def terminatedNext (σ : C04qSt) (l : Label) : Bool := if l.terminates then true else σ.terminated

def streamEndedNext (σ : C04qSt) : Label → Bool
  | .streamEnd => true
  | _ => σ.streamEnded

/-- the two conditions under which clause (b) is checked at a `quiescent` label -/
def guard04q (c : MonCtx) (σ : C04qSt) : Bool :=
  σ.stopAccepted && !σ.failure && !(c.cfg.stream && σ.streamEnded)

def bad04q (c : MonCtx) (σ : C04qSt) : Label → Bool
  | .ret o r =>
    (match (lookup o σ.ops).bind callMsg? with
     | some m => σ.late.contains m && !r.isErr
     | none => false)
  | .cbBegin (.handle m) => σ.late.contains m
  | .quiescent _ =>
    guard04q c σ && !(σ.sentOk.all (fun m => σ.handled.contains m) && σ.terminated)
  | _ => false

def next04q (c : MonCtx) (σ : C04qSt) (l : Label) : C04qSt :=
  { ops := opsNext4 σ.ops l, stopIssued := issuedNext σ.stopIssued l, stopAccepted := acceptedNext σ l,
    sentOk := sentOkNext σ l, late := lateNext σ l, handled := handledNext σ.handled l,
    failure := failureNext c σ l, terminated := terminatedNext σ l, streamEnded := streamEndedNext σ l }

theorem ite_guard {α : Type} (A B : Bool) (x : α) :
    (if A = true then (if B = true then some x else none) else some x) =
      if (A && !B) = true then none else some x := by
  cases A <;> cases B <;> simp

theorem monC04q_step (c : MonCtx) (σ : C04qSt) (l : Label) :
    (monC04q c).step σ l = if bad04q c σ l then none else some (next04q c σ l) := by
  obtain ⟨ops, si, sa, so, la, ha, fa, te, se⟩ := σ
  -- every label the monitor does not look at falls into its last clause, which is `next04q` literally
  cases l <;> try rfl
  case begin o h k => cases k <;> cases si <;> cases sa <;> rfl
  case ret o r =>
    simp only [monC04q, bad04q, next04q, acceptedNext, sentOkNext]
    cases lookup o ops with
    | none => rfl
    | some k =>
      cases k
      case send m | trySend m | tryForce m => cases sa <;> cases (r == .ok && !si) <;> rfl
      case call m | callw m | tryCall m => cases sa <;> cases (la.contains m && !r.isErr) <;> rfl
      case halt | tryHalt => cases sa <;> cases (r == .ok) <;> rfl
      all_goals cases sa <;> rfl
  case cbBegin cb => cases cb <;> rfl
  case cbEnd cb ok => cases cb <;> cases ok <;> rfl
  case cbAbandon cb =>
    simp only [monC04q, bad04q, next04q, failureNext, failsActor]
    cases c.cfg.failOnTimeout <;> rfl
  case quiescent p => exact ite_guard _ _ _

end Hannibal
