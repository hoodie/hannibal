import Hannibal.Proofs.C02Wait
/-
  C02, "nothing hangs": the invariant.  A record that still waits after a step was there before, unchanged,
  unless `begin` has just appended it; what it waits for is still on its way (`step_slotsLive`, `stopLive_step`).
-/
namespace Hannibal
open AState

theorem fail_ops_eq (s : AState) : s.fail.ops = (s.cancelSlots s.slotsLive).ops := rfl

theorem OpsChange.old {s s' : AState} {l : Label} (h : OpsChange s s' l) :
    ∀ r' ∈ s'.ops, r' ∈ s.ops ∨ (r'.st ≠ .pending ∧ r'.st ≠ .joining) := by
  have key : ∀ {p st}, s'.ops = s.ops.map (resolve p st) → st ≠ .pending → st ≠ .joining →
      ∀ r' ∈ s'.ops, r' ∈ s.ops ∨ (r'.st ≠ .pending ∧ r'.st ≠ .joining) := by
    intro p st h h1 h2 r' hr'
    rw [h] at hr'
    obtain ⟨r, hr, rfl⟩ := List.mem_map.mp hr'
    rcases resolve_cases p st r with he | ⟨-, -, he⟩ <;> rw [he]
    · exact .inl hr
    · exact .inr ⟨h1, h2⟩
  cases h with
  | same h => intro r' hr'; exact .inl (h ▸ hr')
  | broken _ _ _ h | gone _ h | answer _ _ _ _ _ h | ping _ _ _ _ h => exact key h nofun nofun

structure WaitInv (s : AState) : Prop where
  slot : ∀ r ∈ s.ops, needsSlot r = true → r.o ∈ s.slotsLive
  stop : ∀ r ∈ s.ops, needsStop r = true → stopLive s = true

theorem waitInv_init (cfg : Cfg) (h0 : Nat) (k0 : HKind) : WaitInv (AState.init cfg h0 k0) := by
  constructor <;> (intro r hr; simp [AState.init] at hr)

theorem needsSlot_new {w} {s s' : AState} {o h : Nat} {k : OpKind} {st : OpSt} (hout : BeginOut w s s' o h k st)
    (hn : needsSlot { o, h, kind := k, st } = true) : o ∈ s'.slotsLive := by
  simp [needsSlot] at hn
  obtain ⟨hst, hk⟩ := hn
  cases hout with
  | refused e hst' _ _ => simp [hst] at hst'
  | wait hpl _ _ => cases k <;> simp_all [planPl, OpKind.isCall]
  | sent pl tok hpl _ hc _ =>
    refine mem_slotsLive_iff.mpr (.inr ⟨{ pl, tok }, by rw [hc]; simp, ?_⟩)
    cases k <;> simp [planPl, OpKind.isCall] at hpl hk <;> subst hpl <;> simp [slotOf]

theorem needsStop_new {w} {s s' : AState} {o h : Nat} {k : OpKind} {st : OpSt} (hout : BeginOut w s s' o h k st)
    (hn : needsStop { o, h, kind := k, st } = true) : stopLive s' = true := by
  simp [needsStop] at hn
  cases hout with
  | refused e hst' _ _ => simp [hst'] at hn
  | wait hpl _ _ => cases k <;> simp_all [planPl]
  | sent pl tok hpl _ hc _ =>
    have : pl = .stop := by cases k <;> simp_all [planPl]
    subst this
    simp [stopLive, hc]

theorem waitInv_step {w : Wiring} {s s' : AState} {l : Label} (hs : step w s l = some s')
    (hcb : slotCb s.phase = true) (hi : WaitInv s) : WaitInv s' := by
  have old : ∀ r' ∈ s'.ops, r'.st = .pending ∨ r'.st = .joining →
      r' ∈ s.ops ∨ ∃ o h k st, BeginOut w s s' o h k st ∧ r' = { o, h, kind := k, st } := by
    intro r' hr' hst
    by_cases hedge : l.isOpEdge = true
    · exact (edge_ops hs hedge r' hr').imp (·.1) (fun ⟨o, h, k, st, _, hout, he, _⟩ => ⟨o, h, k, st, hout, he⟩)
    · rcases (step_opsChange hs (by simpa using hedge)).old r' hr' with h | ⟨h1, h2⟩
      · exact .inl h
      · rcases hst with h | h <;> contradiction
  constructor
  · intro r' hr' hn
    have hp : r'.st = .pending := by simp [needsSlot] at hn; exact hn.1
    rcases old r' hr' (.inl hp) with hr | ⟨o, h, k, st, hout, rfl⟩
    · rcases step_slotsLive hs hcb _ (hi.slot r' hr hn) with h | h
      · exact h
      · exact absurd hp (h r' hr' rfl)
    · exact needsSlot_new hout hn
  · intro r' hr' hn
    have hp : r'.st = .pending ∨ r'.st = .joining := by
      simp [needsStop] at hn; exact hn.imp (·.1) (·.1)
    rcases old r' hr' hp with hr | ⟨o, h, k, st, hout, rfl⟩
    · exact stopLive_step hs (hi.stop r' hr hn)
    · exact needsStop_new hout hn

end Hannibal
