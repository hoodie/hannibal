import Hannibal.Proofs.C02Quiet
import Hannibal.Proofs.C02Step
import Hannibal.Proofs.C05Dead
/-
  C05 (2): the part of the C02 coupling that does not depend on where the loop notifies (`Lite02`: `Core02` with the
  `graceful` flag, the channel invariant and `WaitInv`, no `TermInv`), for use as a ghost invariant; a quiet actor
  whose loop is parked still has a strong handle.
-/
namespace Hannibal
open AState

structure Lite02 (s : AState) (σ : C02St) : Prop extends Core02 s σ where
  grace : gracefulEnd s.phase = true → σ.graceful = true
  wf : s.chan.WF
  wait : WaitInv s

theorem lite02_init (c : MonCtx) : Lite02 (AState.init c.cfg c.h0 c.k0) C02St.init :=
  ⟨core02_init .., nofun, Chan.wf_init _, waitInv_init ..⟩

theorem lite02_step (w : Wiring) {s s' : AState} {σ : C02St} {l : Label}
    (hi : Lite02 s σ) (hf : freshFor σ l) (hs : step w s l = some s') : Lite02 s' (next02 σ l) :=
  ⟨core02_step hi.toCore02 hf hs, grace_step w hs hi.grace, (step_chan hs).wf hi.wf,
    waitInv_step hs (slotCb_of_phaseOk hi.phase) hi.wait⟩

/-- a quiet actor whose loop is parked and whose handles are all weak: contradiction (somebody must own a
    sender, and whoever could has returned or never held one) -/
theorem idle_quiet_absurd {w : Wiring} (hw : WellWired05 w) {s : AState} {σ : C02St} (hi : Lite02 s σ)
    (hq : s.quiet w = true) (hph : s.phase = .idle) (hweak : s.handles.any (fun p => p.2.strong) = false) :
    False := by
  unfold quiet at hq
  simp only [Bool.and_eq_true, hph] at hq
  obtain ⟨⟨⟨⟨hqe, halive⟩, _⟩, htim⟩, hops⟩ := hq
  have hqe' : s.chan.queue = [] := by simpa using hqe
  have hpk := parked_nil_of_wf hi.wf hqe'
  have hkinds : ∀ r ∈ s.ops, r.kind = .await ∨ r.kind = .join := by
    intro r hr
    obtain ⟨late, _, _, _, h4⟩ := opOk_parts (hi.ops r hr)
    have hn : s.retExpect r = none := by simpa using List.all_eq_true.mp hops r hr
    exact (quiet_op hqe' hpk (.inl hph) (fun _ => by simp [isDone, hph]) hi.wait hr h4 hn).2
  have hd : Dead05 s := by
    refine ⟨fun p hp => by simpa using List.any_eq_false.mp hweak p hp, fun r hr => ?_, fun t ht => ?_⟩
    · rcases hkinds r hr with hk | hk <;> simp [hk, holderKind, isWaitOp]
    · have := List.all_eq_true.mp htim t ht
      simp only [beq_iff_eq] at this
      rw [this]; rfl
  rw [hd.not_alive hw] at halive
  cases halive

end Hannibal
