import Hannibal.Proofs.C05Phase
import Hannibal.Proofs.Latch
import Hannibal.Props.C04
/-
  C03q: a `stop` request that was put into the mailbox stays there as long as the loop can still take
  something out of it; how the loop's last phases are reached.
-/
namespace Hannibal
open AState

variable {w : Wiring} {s s' : AState} {l : Label}

theorem step_stop_keep (hs : step w s l = some s') (hl : loopAlive s'.phase = true) :
    cntP isStopP s ≤ cntP isStopP s' := by
  cases hl' : l.isLoop
  · -- clients, timers and the stream only add entries; `tickBegin` / `extBegin` bind a tick or a broadcast
    exact step_countP_ge isStopP (fun pl h => by cases h <;> cases hl') (by cases l <;> first | rfl | cases hl')
      (n := 0) (fun pl m h hp => by cases h <;> cases hp) hs
  · -- the loop takes a `stop` request only by leaving, and its task only ends on a dead loop
    cases step_loop hs hl' <;> clear hs <;> simp_all [cntP, loopAlive, Chan.deq, isStopP]

def isStopAcc : Label → Bool
  | .stopReq _ true | .ctxStop true => true
  | _ => false

theorem stopAcc_cnt (hs : step w s l = some s') (hl : isStopAcc l = true) : 0 < cntP isStopP s' := by
  have push : ∀ path, 0 < cntP isStopP (s.push .stop path .stale) := fun _ => by
    simp [cntP, List.countP_append, isStopP]
  cases l <;> first | (cases hl; done) | skip
  case stopReq h ok =>
    obtain ⟨-, ⟨-, -, rfl⟩ | ⟨rfl, -⟩⟩ := stepSignal_cases hs
    · exact push _
    · cases hl
  case ctxStop ok =>
    obtain ⟨-, ⟨-, -, -, rfl⟩ | ⟨rfl, -, -⟩⟩ := stepCtxSignal_cases hs
    · exact push _
    · cases hl

/-- the failure events, including an abandoned handler under `fail_on_timeout` -/
def Label.fails (fot : Bool) (l : Label) : Bool :=
  l.isFailure || (match l with | .cbAbandon _ => fot | _ => false)

def Label.isCbBegin : Label → Bool
  | .cbBegin _ => true
  | _ => false

theorem step_failed (hs : step w s l = some s') (hf : failing s'.phase = true) :
    failing s.phase = true ∨ l.fails s.cfg.failOnTimeout = true := by
  cases hl : l.isLoop
  · exact .inl (by rwa [step_phase hs hl] at hf)
  · cases step_loop hs hl <;> clear hs <;> simp_all [failing, Label.fails, Label.isFailure]

theorem step_exiting (hs : step w s l = some s') (hf : s'.phase = .exiting true) :
    (s.phase = .exiting true ∧ l.isCbBegin = false) ∨ l = .cbEnd .stopped true := by
  cases hl : l.isLoop
  · exact .inl ⟨by rwa [step_phase hs hl] at hf, by cases l <;> first | rfl | cases hl⟩
  · cases step_loop hs hl <;> clear hs <;> simp_all [Label.isCbBegin]

theorem step_doneTrue (hs : step w s l = some s') (hf : s'.phase = .done true) :
    (s.phase = .done true ∧ l ≠ .taskDone ∧ l.isCbBegin = false) ∨
      (l = .taskDone ∧ s.phase = .exiting true) := by
  cases hl : l.isLoop
  · exact .inl ⟨by rwa [step_phase hs hl] at hf, (by rintro rfl; cases hl),
      (by cases l <;> first | rfl | cases hl)⟩
  · cases step_loop hs hl <;> clear hs <;> simp_all [Label.isCbBegin]

/-- What a monitor must have seen of a loop that has returned, if it keeps two flags: `failed`, raised at
    every failure event, and `stopped`, raised when the final `stopped` completes and lowered when any
    callback begins. -/
def endOk (failed stopped : Bool) : Phase → Bool
  | .exiting true | .done true => stopped
  | .exiting false | .done false => failed
  | _ => true

theorem endOk_failed {f d : Bool} {p : Phase} (h : endOk f d p = true) (hf : failing p = true) : f = true := by
  cases p <;> first | cases hf | skip
  all_goals rename_i g; cases g <;> first | exact h | cases hf

theorem endOk_step {f d f' d' : Bool} (hfin : endOk f d s.phase = true) (hs : step w s l = some s')
    (hf : f = true → f' = true) (hfl : l.fails s.cfg.failOnTimeout = true → f' = true)
    (hd : l.isCbBegin = false → d = true → d' = true) (hdl : l = .cbEnd .stopped true → d' = true) :
    endOk f' d' s'.phase = true := by
  have failed : failing s'.phase = true → f' = true := fun h =>
    (step_failed hs h).elim (fun h => hf (endOk_failed hfin h)) hfl
  cases hp' : s'.phase <;> try rfl
  all_goals rename_i g; cases g
  case exiting.false | done.false => exact failed (by rw [hp']; rfl)
  case exiting.true =>
    rcases step_exiting hs hp' with ⟨h1, h2⟩ | h
    · rw [h1] at hfin; exact hd h2 hfin
    · exact hdl h
  case done.true =>
    rcases step_doneTrue hs hp' with ⟨h1, -, h2⟩ | ⟨rfl, h1⟩ <;> rw [h1] at hfin
    · exact hd h2 hfin
    · exact hd rfl hfin

end Hannibal
