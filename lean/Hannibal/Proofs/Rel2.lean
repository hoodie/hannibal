/- Pointwise relation between two lists (core Lean has no `List.Forall₂`). -/
namespace Hannibal

inductive Rel2 {α β : Type} (r : α → β → Prop) : List α → List β → Prop where
  | nil : Rel2 r [] []
  | cons {a b as bs} : r a b → Rel2 r as bs → Rel2 r (a :: as) (b :: bs)

namespace Rel2
variable {α β : Type} {r : α → β → Prop}

theorem append_single {l : List α} {l' : List β} (h : Rel2 r l l') {a : α} {b : β} (hab : r a b) :
    Rel2 r (l ++ [a]) (l' ++ [b]) := by
  induction h with
  | nil => exact .cons hab .nil
  | cons h1 _ ih => exact .cons h1 ih

theorem map_mem {α' β' : Type} {r' : α' → β' → Prop} {l : List α} {l' : List β} (h : Rel2 r l l')
    (f : α → α') (g : β → β') (hfg : ∀ a b, a ∈ l → r a b → r' (f a) (g b)) : Rel2 r' (l.map f) (l'.map g) := by
  induction h with
  | nil => exact .nil
  | @cons a b as bs h1 _ ih =>
    exact .cons (hfg _ _ (by simp) h1) (ih (fun a' b' ha' hr => hfg a' b' (by simp [ha']) hr))

theorem map {α' β' : Type} {r' : α' → β' → Prop} {l : List α} {l' : List β} (h : Rel2 r l l')
    (f : α → α') (g : β → β') (hfg : ∀ a b, r a b → r' (f a) (g b)) : Rel2 r' (l.map f) (l'.map g) :=
  h.map_mem f g fun a b _ => hfg a b

theorem mono {r' : α → β → Prop} {l : List α} {l' : List β} (h : Rel2 r l l') (hrr : ∀ a b, r a b → r' a b) :
    Rel2 r' l l' := by
  simpa using h.map id id hrr

theorem find {l : List α} {l' : List β} (h : Rel2 r l l') (p : α → Bool) (q : β → Bool)
    (hpq : ∀ a b, r a b → p a = q b) :
    (∀ a, l.find? p = some a → ∃ b, l'.find? q = some b ∧ r a b) ∧ (l.find? p = none → l'.find? q = none) := by
  induction h with
  | nil => simp
  | @cons a b as bs h1 _ ih =>
    simp only [List.find?_cons]
    rw [← hpq a b h1]
    cases hp : p a
    · simpa using ih
    · simp; exact h1

end Rel2
end Hannibal
