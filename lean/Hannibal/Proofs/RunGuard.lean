import Hannibal.Proofs.Run
/- Two well-formedness automata (fresh operation ids, fresh message numbers, ...) as one. -/
namespace Hannibal

def Mon.prod {α β : Type} (a : Mon α) (b : Mon β) : Mon (α × β) where
  init := (a.init, b.init)
  step st l :=
    match a.step st.1 l, b.step st.2 l with
    | some x, some y => some (x, y)
    | _, _ => none

theorem Mon.prod_step_some {α β : Type} {a : Mon α} {b : Mon β} {st st' : α × β} {l : Label}
    (h : (a.prod b).step st l = some st') : a.step st.1 l = some st'.1 ∧ b.step st.2 l = some st'.2 := by
  simp only [Mon.prod] at h
  cases ha : a.step st.1 l <;> cases hb : b.step st.2 l <;> simp [ha, hb] at h
  subst h; exact ⟨rfl, rfl⟩

theorem Mon.prod_run {α β : Type} (a : Mon α) (b : Mon β) :
    ∀ (ls : List Label) (x : α) (y : β),
      ((a.prod b).run (x, y) ls).isSome = ((a.run x ls).isSome && (b.run y ls).isSome)
  | [], _, _ => by simp [Mon.run]
  | l :: ls, x, y => by
    simp only [Mon.run]
    cases ha : a.step x l <;> cases hb : b.step y l <;> simp [Mon.prod, ha, hb]
    rename_i x' y'
    have := Mon.prod_run a b ls x' y'
    simpa [Mon.prod] using this

theorem Mon.prod_ok {α β : Type} (a : Mon α) (b : Mon β) (ls : List Label) :
    (a.prod b).ok ls = (a.ok ls && b.ok ls) := by
  unfold Mon.ok
  exact Mon.prod_run a b ls a.init b.init

end Hannibal
