import Hannibal.Proofs.C04PQueue
/-
  Model facts behind C01 (FIFO, said of pings): what one step does to the user messages waiting *ahead of the
  payload of ping `o`* in the mailbox.
-/
namespace Hannibal
open AState

def notPing01p (o : Nat) (e : Entry) : Bool := e.pl != .ping o

def aheadOf01p (o : Nat) (q : List Entry) : List Nat :=
  (q.takeWhile (notPing01p o)).filterMap (fun e => msgNo e.pl)

def qmsgsL01p (q : List Entry) : List Nat := q.filterMap (fun e => msgNo e.pl)

theorem qmsgsL01p_chan (c : Chan) : qmsgsL01p c.queue = qmsgs c := rfl

@[simp] theorem aheadOf01p_nil (o : Nat) : aheadOf01p o [] = [] := rfl

theorem aheadOf01p_cons (o : Nat) (e : Entry) (q : List Entry) :
    aheadOf01p o (e :: q) = if e.pl = .ping o then [] else msgL e.pl ++ aheadOf01p o q := by
  unfold aheadOf01p msgL
  by_cases h : e.pl = .ping o
  · simp [notPing01p, h]
  · simp [List.takeWhile_cons, notPing01p, h, List.filterMap_cons]
    cases msgNo e.pl <;> simp

theorem qmsgsL01p_cons (e : Entry) (q : List Entry) : qmsgsL01p (e :: q) = msgL e.pl ++ qmsgsL01p q := by
  unfold qmsgsL01p msgL
  rw [List.filterMap_cons]
  cases msgNo e.pl <;> simp

theorem mem_qpings_cons01p {o : Nat} {e : Entry} {q : List Entry} :
    o ∈ qpings04p (e :: q) ↔ e.pl = .ping o ∨ o ∈ qpings04p q := by
  rw [qpings04p_cons, List.mem_append]
  constructor
  · rintro (h | h)
    · left
      cases hp : e.pl <;> simp [pingL04p, pingNo04p, hp] at h ⊢
      exact h.symm
    · exact .inr h
  · rintro (h | h)
    · left; simp [pingL04p, pingNo04p, h]
    · exact .inr h

theorem aheadOf01p_snoc_mem {o : Nat} {q : List Entry} (e : Entry) (h : o ∈ qpings04p q) :
    aheadOf01p o (q ++ [e]) = aheadOf01p o q := by
  induction q with
  | nil => simp at h
  | cons x xs ih =>
    rw [List.cons_append, aheadOf01p_cons, aheadOf01p_cons]
    by_cases hx : x.pl = .ping o
    · simp [hx]
    · simp only [hx, if_false]
      rcases mem_qpings_cons01p.mp h with h | h
      · exact absurd h hx
      · rw [ih h]

theorem aheadOf01p_snoc_new {o : Nat} {q : List Entry} (tok : Tok) (h : o ∉ qpings04p q) :
    aheadOf01p o (q ++ [{ pl := .ping o, tok }]) = qmsgsL01p q := by
  induction q with
  | nil => simp [aheadOf01p_cons, qmsgsL01p]
  | cons x xs ih =>
    rw [List.cons_append, aheadOf01p_cons, qmsgsL01p_cons]
    have hx : x.pl ≠ .ping o := fun hx => h (mem_qpings_cons01p.mpr (.inl hx))
    simp only [hx, if_false]
    rw [ih (fun h' => h (mem_qpings_cons01p.mpr (.inr h')))]

/-- `rx` is the receiver flag before the step -/
def BRel01p (l : Label) (q q' : List Entry) (rx : Bool) : Prop :=
  ∀ o, o ∈ qpings04p q' →
    (o ∈ qpings04p q ∧ ∀ m ∈ aheadOf01p o q, m ∈ aheadOf01p o q' ∨ l = .cbBegin (.handle m)) ∨
    ((∃ h, l = .begin o h .ping) ∧ rx = true ∧ ∀ m ∈ qmsgsL01p q, m ∈ aheadOf01p o q')

theorem brel01p_same {l : Label} {q q' : List Entry} {rx : Bool} (h : q' = q) : BRel01p l q q' rx := by
  subst h; exact fun o ho => .inl ⟨ho, fun m hm => .inl hm⟩

theorem brel01p_nil {l : Label} {q q' : List Entry} {rx : Bool} (h : q' = []) : BRel01p l q q' rx := by
  subst h; intro o ho; simp at ho

theorem brel01p_enq_other {l : Label} {q q' : List Entry} {rx : Bool} {e : Entry} (h : q' = q ++ [e])
    (hp : pingNo04p e.pl = none) : BRel01p l q q' rx := by
  subst h
  have hl : pingL04p e.pl = [] := by simp [pingL04p, hp]
  intro o ho
  rw [qpings04p_snoc, hl, List.append_nil] at ho
  refine .inl ⟨ho, fun m hm => .inl ?_⟩
  rw [aheadOf01p_snoc_mem e ho]; exact hm

theorem brel01p_enq_ping {o h : Nat} {q q' : List Entry} {rx : Bool} {tok : Tok}
    (hq : q' = q ++ [{ pl := .ping o, tok }]) (hrx : rx = true) : BRel01p (.begin o h .ping) q q' rx := by
  subst hq
  intro o' ho'
  by_cases hin : o' ∈ qpings04p q
  · refine .inl ⟨hin, fun m hm => .inl ?_⟩
    rw [aheadOf01p_snoc_mem _ hin]; exact hm
  · rw [qpings04p_snoc] at ho'
    rcases List.mem_append.mp ho' with h1 | h1
    · exact absurd h1 hin
    · simp [pingL04p, pingNo04p] at h1; subst h1
      refine .inr ⟨⟨h, rfl⟩, hrx, fun m hm => ?_⟩
      rw [aheadOf01p_snoc_new tok hin]; exact hm

theorem brel01p_tail {l : Label} {q q' : List Entry} {rx : Bool} {e : Entry} (h : q = e :: q')
    (hm : ∀ m, msgNo e.pl = some m → l = .cbBegin (.handle m)) : BRel01p l q q' rx := by
  subst h
  intro o ho
  refine .inl ⟨mem_qpings_cons01p.mpr (.inr ho), fun m hmem => ?_⟩
  rw [aheadOf01p_cons] at hmem
  by_cases he : e.pl = .ping o
  · simp [he] at hmem
  · simp only [he, if_false] at hmem
    rcases List.mem_append.mp hmem with h1 | h1
    · right
      apply hm
      unfold msgL at h1
      cases hn : msgNo e.pl with
      | none => simp [hn] at h1
      | some m0 => simp [hn] at h1; rw [h1]
    · exact .inl h1

theorem brel01p_rename {l : Label} {q q' : List Entry} {rx : Bool} {pl pl' : Payload} {tok : Tok}
    {rest : List Entry} (hq : q = { pl, tok } :: rest) (hq' : q' = { pl := pl', tok } :: rest)
    (h1 : pingNo04p pl = none) (h2 : pingNo04p pl' = none) (h3 : msgNo pl = none) : BRel01p l q q' rx := by
  subst hq hq'
  intro o ho
  have hne : pl ≠ .ping o := by intro h; rw [h] at h1; simp [pingNo04p] at h1
  have hne' : pl' ≠ .ping o := by intro h; rw [h] at h2; simp [pingNo04p] at h2
  have hrest : o ∈ qpings04p rest := by
    rcases mem_qpings_cons01p.mp ho with h | h
    · exact absurd h hne'
    · exact h
  refine .inl ⟨mem_qpings_cons01p.mpr (.inr hrest), fun m hm => .inl ?_⟩
  rw [aheadOf01p_cons] at hm ⊢
  simp only [hne, hne', if_false] at hm ⊢
  simp only [msgL, h3, List.nil_append] at hm
  exact List.mem_append_right _ hm

theorem BRel01p.of_chanOf {l c c'} (h : ChanOf l c c') : BRel01p l c.queue c'.queue c.rx := by
  cases h with
  | same _ h => subst h; exact brel01p_same rfl
  | enq pl tok t hl _ hrx h =>
    subst h
    cases hl with
    | op o h' k _ hp =>
      subst hp
      by_cases hk : k = .ping
      · subst hk
        exact brel01p_enq_ping (tok := t) (Chan.enq_queue ..) hrx
      · exact brel01p_enq_other (e := { pl := payloadOf o k, tok := t }) (Chan.enq_queue ..)
          (pingNo04p_payloadOf hk)
    | _ => exact brel01p_enq_other (Chan.enq_queue ..) rfl
  | deq pl tok rest hl hq _ h =>
    subst h
    exact brel01p_tail (e := { pl, tok }) (by simp [Chan.deq, hq]) (fun m hm => by cases hl <;> cases hm; rfl)
  | bind pl m tok rest hl hq h => subst h; cases hl <;> exact brel01p_rename hq rfl rfl rfl rfl
  | drop _ h => subst h; exact brel01p_nil rfl

theorem step_brel01p {w s l s'} (hs : step w s l = some s') :
    BRel01p l s.chan.queue s'.chan.queue s.chan.rx :=
  .of_chanOf (step_chanOf hs)

theorem qrel_keep01p {l : Label} {c c' : Chan} (h : QRel l c c') (hrx : c'.rx = true) :
    c.rx = true ∧ ∀ m ∈ qmsgs c, m ∈ qmsgs c' ∨ l = .cbBegin (.handle m) := by
  rcases h.shape with ⟨m0, rfl, h1, h2⟩ | ⟨-, ⟨h1, h2⟩ | ⟨m', h1, h2, -⟩ | ⟨m', h1, h2⟩ | ⟨-, h2⟩⟩
  · refine ⟨h2 ▸ hrx, fun m hm => ?_⟩
    rw [h1] at hm
    rcases List.mem_cons.mp hm with rfl | hm
    · exact .inr rfl
    · exact .inl hm
  · exact ⟨h2 ▸ hrx, fun m hm => .inl (h1 ▸ hm)⟩
  · exact ⟨h2, fun m hm => .inl (h1 ▸ List.mem_append_left _ hm)⟩
  · exact ⟨h2 ▸ hrx, fun m hm => .inl (h1 ▸ List.mem_cons_of_mem _ hm)⟩
  · rw [h2] at hrx; cases hrx

end Hannibal
