import Hannibal.Proofs.Ops
/- Operations refused at submission carry `send` / `already_stopped`, never the termination error. -/
namespace Hannibal
open AState

def OpsClean (s : AState) : Prop :=
  ∀ r ∈ s.ops, ∀ e, r.st = .failed e → e = .alreadyStopped ∨ e = .send

theorem opsClean_init (cfg : Cfg) (h0 : Nat) (k0 : HKind) : OpsClean (AState.init cfg h0 k0) := by
  intro r hr; simp [AState.init] at hr

theorem opsClean_step {w : Wiring} {s s' : AState} {l : Label} (hs : step w s l = some s') (hi : OpsClean s) :
    OpsClean s' := by
  intro r' hr' e he
  cases hedge : l.isOpEdge
  · obtain ⟨f, hf, pf⟩ := step_ops hs hedge
    rw [hf] at hr'
    obtain ⟨r, hr, rfl⟩ := List.mem_map.mp hr'
    exact hi r hr e (pf.failed r e he)
  · rcases edge_ops hs hedge r' hr' with ⟨hr, -⟩ | ⟨o, h, k, st, -, hout, rfl, -⟩
    · exact hi r' hr e he
    · rcases hout.st_cases with h | h | h | h | ⟨h, -⟩ <;> cases h.symm.trans he <;> simp

end Hannibal
