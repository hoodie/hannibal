import Hannibal.Proofs.C05Queue
/-
  C10q: how many ticks of timer `t` wait in the mailbox.  Only `timerArm t` adds one (at most), `tickBegin t`
  takes one off the head.
-/
namespace Hannibal
open AState

def isTickP (t : Nat) : Payload → Bool
  | .tick t' => t' == t
  | _ => false

def tickCnt (t : Nat) (s : AState) : Nat := cntP (isTickP t) s

def armIncr (t : Nat) : Label → Nat
  | .timerArm t' _ => if t' = t then 1 else 0
  | _ => 0

theorem step_tickCnt {w : Wiring} {s s' : AState} {l : Label} (t : Nat) (hs : step w s l = some s') :
    tickCnt t s' ≤ tickCnt t s + armIncr t l :=
  step_countP_le (isTickP t) (fun _ => rfl) (hs := hs) fun pl _ h hp => by
    cases pl <;> first | cases hp | skip
    obtain ⟨due, rfl⟩ := h.of_tick
    simp only [isTickP, beq_iff_eq] at hp
    simp [armIncr, hp]

theorem stepTickBegin_tickCnt {s s' : AState} {t m : Nat} (hs : stepTickBegin s t m = some s') (t' : Nat) :
    tickCnt t' s = tickCnt t' s' + (if t' = t then 1 else 0) := by
  obtain ⟨tok, rest, -, hq, rfl⟩ := stepTickBegin_cases hs
  simp only [tickCnt, cntP, hq, List.countP_cons, isTickP]
  by_cases hb : t' = t
  · subst hb; simp
  · have : (t == t') = false := by simp; exact fun e => hb e.symm
    simp [hb, this]

end Hannibal
