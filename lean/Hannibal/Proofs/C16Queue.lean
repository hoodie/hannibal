import Hannibal.Proofs.C05Queue
import Hannibal.Proofs.SysBasic
/-
  C16: how many copies of broadcast `b` wait in an actor's mailbox.  Only `extPush b` adds one, `extBegin b`
  takes one off the head.
-/
namespace Hannibal
open AState

def isExtP (b : Nat) : Payload → Bool
  | .ext b' => b' == b
  | _ => false

def extCnt (b : Nat) (s : AState) : Nat := cntP (isExtP b) s

theorem step_extCnt {w : Wiring} {s s' : AState} {l : Label} (b : Nat) (hs : step w s l = some s')
    (hl : ∀ b', l ≠ .extPush b') : extCnt b s' ≤ extCnt b s :=
  step_countP_le (isExtP b) (fun _ => rfl) (n := 0) (hs := hs) fun pl _ h hp => by
    cases pl <;> first | cases hp | exact absurd h.of_ext (hl _)

theorem stepExtBegin_extCnt {s s' : AState} {b m : Nat} (hs : stepExtBegin s b m = some s') (b' : Nat) :
    extCnt b' s = extCnt b' s' + (if b' = b then 1 else 0) := by
  obtain ⟨tok, rest, -, hq, rfl⟩ := stepExtBegin_cases hs
  simp only [extCnt, cntP, hq, List.countP_cons, isExtP]
  by_cases hb : b' = b
  · subst hb; simp
  · have : (b == b') = false := by simp; exact fun e => hb e.symm
    simp [hb, this]

theorem pushAll_cntP (P : Payload → Bool) (b n : Nat) (s : AState) :
    cntP P (Sys.pushAll b n s) = cntP P s + (if s.chan.rx = true ∧ P (.ext b) = true then n else 0) := by
  obtain ⟨C, e, -, hq⟩ := pushAll_shape b n s
  rw [e]
  simp only [cntP, hq, List.countP_append]
  cases s.chan.rx <;> cases hp : P (.ext b) <;> simp [List.countP_replicate, hp]

theorem extCnt_dropAll (hs : List Nat) (s : AState) (b : Nat) : extCnt b (Sys.dropAll hs s) = extCnt b s := by
  unfold extCnt cntP; rw [dropAll_chan]

end Hannibal
