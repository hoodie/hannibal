import Hannibal.Proofs.Timers
import Hannibal.Monitor.C05
/-
  C05: the monitor's view of who owns a strong handle (handle table, in-flight try_* operations,
  timer tasks in the middle of a send) covers the model's owners of the channel closures.
-/
namespace Hannibal
open AState

def holding : TimerSt → Bool
  | .sending | .deadHolding => true
  | _ => false

/-- strong kinds own both closures, weak kinds own nothing and need something to upgrade -/
def wellWired05b (w : Wiring) : Bool :=
  wellWired15b w &&
  [HKind.weakAddr, .weakSender, .weakCaller].all (fun k => (w.holds k).isEmpty && !(w.upgradeReq k).isEmpty)

def WellWired05 (w : Wiring) : Prop := wellWired05b w = true

instance (w : Wiring) : Decidable (WellWired05 w) := by unfold WellWired05; infer_instance

theorem WellWired05.w15 {w : Wiring} (h : WellWired05 w) : WellWired15 w := by
  unfold WellWired05 wellWired05b at h
  exact (wellWired15_iff w).mpr (by simp at h; simp [h.1])

theorem WellWired05.weak_holds {w : Wiring} (h : WellWired05 w) (k : HKind) (hk : k.strong = false) :
    w.holds k = [] := by
  unfold WellWired05 wellWired05b at h
  simp at h
  cases k <;> simp [HKind.strong] at hk <;> simp [h.2]

theorem WellWired05.upg {w : Wiring} (h : WellWired05 w) (k : HKind) (hk : k.strong = false) :
    w.upgradeReq k ≠ [] := by
  unfold WellWired05 wellWired05b at h
  simp at h
  cases k <;> simp [HKind.strong] at hk <;> simp [h.2]

theorem mem_setTimer {s : AState} {t : Nat} {st : TimerSt} {x' : Timer} (h : x' ∈ (s.setTimer t st).timers) :
    ∃ x ∈ s.timers, x'.id = x.id ∧ ((x.id = t ∧ x'.st = st) ∨ (x.id ≠ t ∧ x' = x)) := by
  unfold setTimer at h
  simp only at h
  obtain ⟨x, hx, rfl⟩ := List.mem_map.mp h
  refine ⟨x, hx, ?_⟩
  by_cases he : x.id = t
  · simp [he]
  · simp [he]

theorem mem_killTimers {s : AState} {x' : Timer} (h : x' ∈ s.killTimers.timers) :
    ∃ x ∈ s.timers, x'.id = x.id ∧ x'.st ≠ .spawned ∧ (holding x'.st = true → holding x.st = true) := by
  unfold killTimers at h
  simp only at h
  obtain ⟨x, hx, rfl⟩ := List.mem_map.mp h
  refine ⟨x, hx, ?_⟩
  split
  · rename_i he; simp [he, holding]
  · split
    · rename_i hh; rcases hh with hh | hh <;> simp [hh, holding]
    · simp [holding]

/-- What a step has made of the timer `x`: the result holds a sender only if `x` did (and the step is not the end
    of that send) or `x`'s closure has just upgraded its weak sender; it is still to be armed only if `x` was. -/
structure TimerFrom (w : Wiring) (s : AState) (l : Label) (x x' : Timer) : Prop where
  id : x'.id = x.id
  hold : holding x'.st = true →
    (holding x.st = true ∧ (∀ d, l ≠ .timerArm x.id d) ∧ l ≠ .timerEnd x.id) ∨
    ∃ m, l = .fire x.id (some m) ∧ s.reqOk w (w.upgradeReq .weakSender) = true
  fresh : x'.st = .spawned → x.st = .spawned ∧ ∀ d, l ≠ .timerArm x.id d

theorem step_timer_mem {w s l s'} (hs : step w s l = some s') {x' : Timer} (hx' : x' ∈ s'.timers) :
    (∃ k d, l = .ctxTimer x'.id k d ∧ x'.st = .spawned ∧ x'.id ∉ s.timerIds) ∨
    ∃ x ∈ s.timers, TimerFrom w s l x x' := by
  have keep : x' ∈ s.timers → (∀ d, l ≠ .timerArm x'.id d) → l ≠ .timerEnd x'.id →
      ∃ x ∈ s.timers, TimerFrom w s l x x' :=
    fun hx h1 h2 => ⟨x', hx, rfl, fun h => .inl ⟨h, h1, h2⟩, fun h => ⟨h, h1⟩⟩
  cases step_timersOf hs with
  | same hl h => exact .inr (keep (h ▸ hx') (by rintro d rfl; cases hl) (by rintro rfl; cases hl))
  | kill hl h =>
    -- the loop is gone, or refreshed: every timer task is aborted
    rw [h] at hx'
    obtain ⟨x, hx, hid, hsp, hh⟩ := mem_killTimers hx'
    refine .inr ⟨x, hx, hid, fun h => .inl ⟨hh h, ?_, ?_⟩, fun h => absurd h hsp⟩
    · rintro d rfl; rcases hl with hl | ⟨hl, -⟩ <;> cases hl
    · rintro rfl; rcases hl with hl | ⟨hl, -⟩ <;> cases hl
  | reg t k d hr hnew h =>
    subst hr; rw [h] at hx'
    rcases List.mem_append.mp hx' with hx | hx
    · exact .inr (keep hx nofun nofun)
    · obtain rfl := List.mem_singleton.mp hx
      refine .inl ⟨k, d, rfl, rfl, fun hm => ?_⟩
      obtain ⟨y, hy, hyid⟩ := List.mem_map.mp hm
      simpa [hyid] using List.any_eq_false.mp hnew y hy
  | task t x st _ ht h =>
    -- the timers called `t` were put into a state other than `spawned`, holding only after an upgrade
    rw [h] at hx'
    obtain ⟨y, hy, hid, ⟨he, hst⟩ | ⟨hne, rfl⟩⟩ := mem_setTimer hx'
    · refine .inr ⟨y, hy, hid, fun hh => .inr ?_, fun hsp => ?_⟩
      · rw [hst] at hh
        cases ht <;> first | (cases hh; done) | exact ⟨_, by rw [he], ‹_›⟩
      · rw [hst] at hsp; cases ht <;> cases hsp
    · have hl : ∀ t', (∃ d, l = .timerArm t' d) ∨ l = .timerEnd t' → t' = t := by
        rintro t' (⟨d, rfl⟩ | rfl) <;> cases ht <;> rfl
      exact .inr (keep hy (fun d e => hne (hl _ (.inl ⟨d, e⟩))) (fun e => hne (hl _ (.inr e))))

/-- `sending` follows the timers that hold a sender, `armed` those that have been armed -/
structure TInv (s : AState) (σ : C05St) : Prop where
  snd : ∀ x ∈ s.timers, holding x.st = true → x.id ∈ σ.sending
  arm : ∀ x ∈ s.timers, x.st = .spawned → x.id ∉ σ.armed
  ids : ∀ t ∈ σ.armed, t ∈ s.timerIds
  nodup : s.timerIds.Nodup

theorem mem_next05_sending {c : MonCtx} {σ : C05St} {l : Label} {t : Nat}
    (h : t ∈ σ.sending ∧ (∀ d, l ≠ .timerArm t d) ∧ l ≠ .timerEnd t ∨ ∃ m, l = .fire t (some m)) :
    t ∈ (next05 c σ l).sending := by
  rcases h with ⟨h, ha, he⟩ | ⟨m, rfl⟩
  · cases l <;> first | exact h | skip
    case timerArm t' d => exact List.mem_filter.mpr ⟨h, by simpa using fun e : t = t' => ha d (e ▸ rfl)⟩
    case timerEnd t' => exact List.mem_filter.mpr ⟨h, by simpa using fun e : t = t' => he (e ▸ rfl)⟩
    case fire t' m =>
      cases m
      · exact h
      · exact List.mem_cons_of_mem _ h
  · exact List.mem_cons_self ..

theorem mem_next05_armed {c : MonCtx} {σ : C05St} {l : Label} {t : Nat} (h : t ∈ (next05 c σ l).armed) :
    t ∈ σ.armed ∨ ∃ d, l = .timerArm t d := by
  cases l <;> first | exact .inl h | skip
  rcases List.mem_cons.mp h with rfl | h
  · exact .inr ⟨_, rfl⟩
  · exact .inl h

theorem tinv_step {w : Wiring} {c : MonCtx} {s s' : AState} {σ : C05St} {l : Label}
    (hi : TInv s σ) (hs : step w s l = some s') : TInv s' (next05 c σ l) := by
  -- only a registration adds an id, a fresh one
  have hids : s'.timerIds = s.timerIds ∨ ∃ t, t ∉ s.timerIds ∧ s'.timerIds = s.timerIds ++ [t] := by
    by_cases h : ∃ t k d, l = .ctxTimer t k d
    · obtain ⟨t, k, d, rfl⟩ := h
      obtain ⟨-, hnew, rfl⟩ := stepCtxTimer_cases hs
      refine .inr ⟨t, fun hm => ?_, by simp [timerIds]⟩
      obtain ⟨y, hy, hyid⟩ := List.mem_map.mp hm
      simpa [hyid] using List.any_eq_false.mp hnew y hy
    · exact .inl (step_timer_ids hs (fun t k d e => h ⟨t, k, d, e⟩))
  have hsub : ∀ t ∈ s.timerIds, t ∈ s'.timerIds := by
    rcases hids with h | ⟨t, -, h⟩ <;> rw [h] <;> simp +contextual
  refine ⟨fun x' hx' hh => ?_, fun x' hx' hsp hm => ?_, fun t ht => ?_, ?_⟩
  · rcases step_timer_mem hs hx' with ⟨k, d, -, hsp, -⟩ | ⟨x, hx, hf⟩
    · rw [hsp] at hh; cases hh
    · rw [hf.id]
      rcases hf.hold hh with ⟨hxh, ha, he⟩ | ⟨m, rfl, -⟩
      · exact mem_next05_sending (.inl ⟨hi.snd x hx hxh, ha, he⟩)
      · exact mem_next05_sending (.inr ⟨m, rfl⟩)
  · rcases step_timer_mem hs hx' with ⟨k, d, rfl, -, hnew⟩ | ⟨x, hx, hf⟩
    · exact hnew (hi.ids _ hm)
    · obtain ⟨hxs, ha⟩ := hf.fresh hsp
      rcases mem_next05_armed hm with hm | ⟨d, rfl⟩
      · exact hi.arm x hx hxs (hf.id ▸ hm)
      · exact ha d (hf.id ▸ rfl)
  · rcases mem_next05_armed ht with ht | ⟨d, rfl⟩
    · exact hsub t (hi.ids t ht)
    · obtain ⟨x, hx, -⟩ := stepTimerArm_cases (show stepTimerArm w s t d = some s' from hs)
      obtain ⟨hmem, hid⟩ := findTimer_mem hx
      exact hsub t (List.mem_map.mpr ⟨x, hmem, hid⟩)
  · rcases hids with h | ⟨t, ht, h⟩ <;> rw [h]
    · exact hi.nodup
    · exact List.nodup_append.mpr ⟨hi.nodup, by simp, fun a ha b hb e => ht (List.mem_singleton.mp hb ▸ e ▸ ha)⟩

def OInv (s : AState) (σ : C05St) : Prop := ∀ r ∈ s.ops, holderKind r.kind = true → r.o ∈ σ.inflight

theorem oinv_step {w : Wiring} {c : MonCtx} {s s' : AState} {σ : C05St} {l : Label}
    (hi : OInv s σ) (hs : step w s l = some s') : OInv s' (next05 c σ l) := by
  intro r' hr' hk
  rcases step_op_mem hs hr' with ⟨rfl, -, -⟩ | ⟨r, hr, ho, hkd, -, -, hret, hdrop⟩
  · simp [next05, hk]
  · have := hi r hr (hkd ▸ hk)
    rw [ho]
    cases l <;> first | exact this | skip
    case begin => simp only [next05]; split <;> simp [this]
    case ret o res => exact List.mem_filter.mpr ⟨this, by simpa using fun e : r.o = o => hret res (e ▸ rfl)⟩
    case cdrop o => exact List.mem_filter.mpr ⟨this, by simpa using fun e : r.o = o => hdrop (e ▸ rfl)⟩

theorem WellWired05.holds {w : Wiring} (hw : WellWired05 w) (k : HKind) (x : Half) :
    (w.holds k).contains x = k.strong := by
  cases hk : k.strong
  · rw [hw.weak_holds k hk]; rfl
  · cases x
    · exact (hw.w15 k hk).1
    · exact (hw.w15 k hk).2

theorem opHolds_eq {w : Wiring} (hw : WellWired05 w) (x : Half) (r : OpRec) :
    opHolds w x r = (holderKind r.kind && r.st != .failed .alreadyStopped) := by
  unfold opHolds
  split
  · next h => simp [h]
  · next h =>
    rw [bne_iff_ne.mpr h, Bool.and_true]
    cases r.kind <;> first | rfl | exact hw.holds _ x

theorem timerHolds_eq {w : Wiring} (hw : WellWired05 w) (x : Half) (t : Timer) :
    timerHolds w x t = holding t.st := by
  unfold timerHolds holding
  cases t.st <;> first | rfl | exact hw.holds _ x

/-- With the strong kinds owning both closures and the weak kinds none, either closure is alive exactly while a
    strong handle exists, an operation that upgraded its handle (or a `Caller::call`) is in flight, or a timer
    task is in the middle of a send. -/
theorem halfAlive_eq {w : Wiring} (hw : WellWired05 w) (s : AState) (x : Half) :
    s.halfAlive w x = (s.handles.any (fun p => p.2.strong) ||
      s.ops.any (fun r => holderKind r.kind && r.st != .failed .alreadyStopped) ||
      s.timers.any (fun t => holding t.st)) := by
  unfold halfAlive
  rw [funext (opHolds_eq hw x), funext (timerHolds_eq hw x)]
  simp only [hw.holds]

theorem alive_cases {w : Wiring} (hw : WellWired05 w) {s : AState} {σ : C05St}
    (hh : σ.hold.handles = s.handles) (ho : OInv s σ) (ht : TInv s σ) {x : Half}
    (h : s.halfAlive w x = true) :
    σ.hold.strongHeld = true ∨ σ.inflight ≠ [] ∨ ∃ y ∈ s.timers, holding y.st = true ∧ y.id ∈ σ.sending := by
  rw [halfAlive_eq hw] at h
  simp only [Bool.or_eq_true, List.any_eq_true, Bool.and_eq_true] at h
  rcases h with (h | ⟨r, hr, hk, -⟩) | ⟨y, hy, hc⟩
  · exact .inl (by unfold HoldSt.strongHeld; rw [hh]; exact List.any_eq_true.mpr h)
  · exact .inr (.inl (List.ne_nil_of_mem (ho r hr hk)))
  · exact .inr (.inr ⟨y, hy, hc, ht.snd y hy hc⟩)

theorem alive_of_reqOk {w : Wiring} {s : AState} {req : List Half} (h : s.reqOk w req = true) (hne : req ≠ []) :
    ∃ x, s.halfAlive w x = true := by
  cases req with
  | nil => exact absurd rfl hne
  | cons x rest =>
    unfold reqOk at h
    simp only [List.all_cons, Bool.and_eq_true] at h
    exact ⟨x, h.1⟩

/-- (3): an upgrade that succeeds finds a strong holder -/
theorem bad05_upgrade {w : Wiring} (hw : WellWired05 w) {c : MonCtx} {s s' : AState} {σ : C05St} {h h' : Nat}
    (hh : σ.hold.handles = s.handles) (ho : OInv s σ) (ht : TInv s σ)
    (hs : step w s (.upgrade h (some h')) = some s') : bad05 c σ (.upgrade h (some h')) = false := by
  obtain ⟨k, ks, -, hks, ⟨n, -, hreq, -, -⟩ | ⟨hn, -, -⟩⟩ :=
    stepUpgrade_cases (show stepUpgrade w s h (some h') = some s' from hs)
  · have hweak : k.strong = false := by cases k <;> first | rfl | cases hks
    obtain ⟨x, hx⟩ := alive_of_reqOk hreq (hw.upg k hweak)
    simp only [bad05]
    rcases alive_cases hw hh ho ht hx with h1 | h1 | ⟨y, _, _, hy⟩
    · simp [h1]
    · cases hi : σ.inflight <;> simp_all
    · cases hi : σ.sending <;> simp_all
  · cases hn

/-- (4): a timer that goes round again found a strong holder (or is itself in the middle of a send) -/
theorem bad05_timerArm {w : Wiring} (hw : WellWired05 w) {c : MonCtx} {s s' : AState} {σ : C05St} {t due : Nat}
    (hh : σ.hold.handles = s.handles) (ho : OInv s σ) (ht : TInv s σ)
    (hs : step w s (.timerArm t due) = some s') : bad05 c σ (.timerArm t due) = false := by
  simp only [step] at hs
  obtain ⟨x0, hx0, -, hcase⟩ := stepTimerArm_cases hs
  obtain ⟨hmem, hid⟩ := findTimer_mem hx0
  simp only [bad05]
  rcases hcase with ⟨hsp, -⟩ | ⟨old, hsl, -, -, hreq, -⟩ | ⟨hsd, -⟩
  · have := ht.arm x0 hmem hsp
    rw [hid] at this
    simp [this]
  · obtain ⟨x, hx⟩ := alive_of_reqOk hreq (hw.upg .weakSender rfl)
    rcases alive_cases hw hh ho ht hx with h1 | h1 | ⟨y, hy, hyh, hys⟩
    · simp [h1]
    · cases hi : σ.inflight <;> simp_all
    · have hne : y.id ≠ t := by
        intro he
        have := eq_of_findTimer ht.nodup hx0 hy he
        subst this
        simp [hsl, holding] at hyh
      have : y.id ∈ σ.sending.filter (fun z => z != t) := List.mem_filter.mpr ⟨hys, by simpa using hne⟩
      cases hf : σ.sending.filter (fun z => z != t) with
      | nil => rw [hf] at this; simp at this
      | cons a b => simp
  · have := ht.snd x0 hmem (by simp [hsd, holding])
    rw [hid] at this
    simp [this]

end Hannibal
