import Hannibal.Props.C09
/-
  C09 at quiescence: the extra invariants (relative to the ghost handling order `H` of
  Proofs/C09Inv.lean) and their preservation.
-/
namespace Hannibal

def SubConv (subs : List Nat) (H : List GE) : Prop := ∀ c, Subscribed H c → c ∈ subs

theorem subc_sub {subs : List Nat} {H : List GE} (h : SubConv subs H) {e : GE} {c0 : Nat}
    (he : e.it = .sub c0) : SubConv (c0 :: subs.filter (fun x => x != c0)) (H ++ [e]) := by
  intro c hc
  by_cases hcc : c = c0
  · exact hcc ▸ List.mem_cons_self
  · rcases subscribed_snoc.mp hc with h1 | ⟨_, h1⟩
    · rw [he] at h1; cases h1; exact absurd rfl hcc
    · exact List.mem_cons_of_mem _ (List.mem_filter.mpr ⟨h c h1, by simpa using hcc⟩)

theorem subc_unsub {subs : List Nat} {H : List GE} (h : SubConv subs H) {e : GE} {c0 : Nat}
    (he : e.it = .unsub c0) : SubConv (subs.filter (fun x => x != c0)) (H ++ [e]) := by
  intro c hc
  rcases subscribed_snoc.mp hc with h1 | ⟨hne, h1⟩
  · rw [he] at h1; cases h1
  · exact List.mem_filter.mpr ⟨h c h1, bne_iff_ne.mpr fun hcc => hne (hcc ▸ he)⟩

theorem subc_pub {subs : List Nat} {H : List GE} (h : SubConv subs H) {e : GE} {m : Nat}
    (he : e.it = .pub m) : SubConv subs (H ++ [e]) := by
  intro c hc
  rcases subscribed_snoc.mp hc with h1 | ⟨_, h1⟩
  · rw [he] at h1; cases h1
  · exact h c h1

def DelInv (seq flight : List (Nat × Nat)) (dead : List Nat) (H : List GE) : Prop :=
  ∀ (j : Nat) (e : GE) (m c : Nat), H[j]? = some e → e.it = .pub m → c ∉ dead → SubAt H c j →
    (c, m) ∈ seq ∨ (c, m) ∈ flight

theorem del_append {seq flight : List (Nat × Nat)} {dead : List Nat} {H : List GE}
    (h : DelInv seq flight dead H) {e : GE} (he : ∀ m, e.it ≠ .pub m) : DelInv seq flight dead (H ++ [e]) := by
  intro j e1 m c hj hit hd hs
  rcases getElem?_snoc hj with ⟨hlt, hj'⟩ | ⟨_, rfl⟩
  · exact h j e1 m c hj' hit hd ((subAt_snoc (Nat.le_of_lt hlt)).mp hs)
  · exact absurd hit (he m)

theorem del_pub {seq flight : List (Nat × Nat)} {dead subs : List Nat} {H : List GE}
    (h : DelInv seq flight dead H) (hsc : SubConv subs H) {e : GE} {m0 : Nat} (he : e.it = .pub m0) :
    DelInv seq (flight ++ (subs.filter (fun c => !dead.contains c)).map (fun c => (c, m0))) dead (H ++ [e]) := by
  intro j e1 m c hj hit hd hs
  rcases getElem?_snoc hj with ⟨hlt, hj'⟩ | ⟨rfl, rfl⟩
  · exact (h j e1 m c hj' hit hd ((subAt_snoc (Nat.le_of_lt hlt)).mp hs)).imp_right (List.mem_append_left _)
  · rw [he] at hit; cases hit
    have hc : c ∈ subs := hsc c (subAt_length.mp ((subAt_snoc (Nat.le_refl _)).mp hs))
    exact Or.inr (List.mem_append_right _ (List.mem_map.mpr ⟨c, List.mem_filter.mpr ⟨hc, by simpa using hd⟩, rfl⟩))

theorem del_deliver {seq f1 f2 : List (Nat × Nat)} {dead : List Nat} {H : List GE} {c0 m0 : Nat}
    (h : DelInv seq (f1 ++ (c0, m0) :: f2) dead H) : DelInv (seq ++ [(c0, m0)]) (f1 ++ f2) dead H := by
  intro j e m c hj hit hd hs
  have := h j e m c hj hit hd hs
  simp only [List.mem_append, List.mem_cons, List.not_mem_nil, or_false] at this ⊢
  rcases this with h1 | h1 | h1 | h1 <;> simp [h1]

theorem del_term {seq flight : List (Nat × Nat)} {dead : List Nat} {H : List GE}
    (h : DelInv seq flight dead H) (c0 : Nat) :
    DelInv seq (flight.filter (fun p => p.1 != c0)) (c0 :: dead) H := by
  intro j e m c hj hit hd hs
  rw [List.mem_cons, not_or] at hd
  exact (h j e m c hj hit hd.2 hs).imp_right fun h1 => List.mem_filter.mpr ⟨h1, by simpa using hd.1⟩

structure QInv09 (s : BrSt) (σ : C09St) (H : List GE) : Prop where
  dd : σ.dead = s.dead
  sc : SubConv s.subs H
  dl : DelInv σ.seq s.flight s.dead H

/-- along the handling order that `c09_step_h` maintains (`hmb`: the mailbox is its queued part) -/
theorem c09q_step {s s' : BrSt} {σ : C09St} {H Q : List GE} {l : BLabel} (hq : QInv09 s σ H)
    (hmb : s.mbox = Q.map (fun e => e.it)) (hs : bstep s l = some s') :
    QInv09 s' (next09 σ l) (hnext H Q l) := by
  cases bstep_cases hs with
  | bbegin o it => exact ⟨hq.dd, hq.sc, hq.dl⟩
  | benq o it => exact ⟨hq.dd, hq.sc, hq.dl⟩
  | bret o => exact ⟨hq.dd, hq.sc, hq.dl⟩
  | procSub c rest hm =>
    obtain ⟨e, Q', rfl, he, rfl⟩ := List.map_eq_cons_iff.mp (hmb.symm.trans hm)
    exact ⟨hq.dd, subc_sub hq.sc he, del_append hq.dl (by simp [he])⟩
  | procUnsub c rest hm =>
    obtain ⟨e, Q', rfl, he, rfl⟩ := List.map_eq_cons_iff.mp (hmb.symm.trans hm)
    exact ⟨hq.dd, subc_unsub hq.sc he, del_append hq.dl (by simp [he])⟩
  | procPub m rest hm =>
    obtain ⟨e, Q', rfl, he, rfl⟩ := List.map_eq_cons_iff.mp (hmb.symm.trans hm)
    exact ⟨hq.dd, subc_pub hq.sc he, del_pub hq.dl hq.sc he⟩
  | deliver c m f1 f2 hd hf hn => exact ⟨hq.dd, hq.sc, del_deliver (hf ▸ hq.dl)⟩
  | term c => exact ⟨congrArg (c :: ·) hq.dd, hq.sc, del_term hq.dl c⟩

theorem c09q_init : QInv09 BrSt.init monC09.init [] :=
  ⟨rfl, fun c ⟨i, e, hi, _⟩ => by simp at hi, fun j e m c hj => by simp at hj⟩

/-- Everything has been enqueued (`pend = []`) and handled (`Q = []`, i.e. `mbox = []`), nothing is on its way:
    a publication whose publish returned has been taken up by every live `c` with a subscribe definitely
    before the publish such that every unsubscribe of `c` is definitely before that subscribe or definitely
    after the publish. -/
theorem c09q_core {s : BrSt} {σ : C09St} {W : List Nat} {H : List GE} (hi : C09Inv s σ W H []) (hq : QInv09 s σ H)
    (hf : s.flight = []) {P S : Op9} {c m r : Nat} (hP : P ∈ σ.ops) (hPit : P.it = .pub m)
    (hPr : P.tr = some r) (hd : c ∉ σ.dead) (hS : S ∈ σ.ops) (hSit : S.it = .sub c)
    (hSP : defBefore S P = true)
    (hU : ∀ U ∈ σ.ops, U.it = .unsub c → defBefore U S = true ∨ defBefore P U = true) :
    (c, m) ∈ σ.seq := by
  have he := hi.e
  have hst := hi.st
  simp only [List.append_nil] at he hst
  obtain ⟨j, eP, hj, hPk, hPi, _⟩ := closed_in_E hst hP hPr
  obtain ⟨rS, hrS, hltS⟩ := defBefore_iff.mp hSP
  obtain ⟨i, eS, hij, hiS, hSk, hSi⟩ := enq_order he hst hS hrS hltS hj hPk
  have hd' : c ∉ s.dead := by rw [← hq.dd]; exact hd
  have hsub : SubAt H c j := by
    refine ⟨i, eS, hij, hiS, by rw [hSi, hSit], ?_⟩
    intro j' e' hij' hj'j hj' hit'
    obtain ⟨U, hUm, hUk, hUi⟩ := he.el e' (List.mem_of_getElem? hj')
    rcases hU U hUm (by rw [hUi, hit']) with h | h
    · obtain ⟨r', hr', hlt'⟩ := defBefore_iff.mp h
      obtain ⟨i', ex, hi'i, hi', hexk, _⟩ := enq_order he hst hUm hr' hlt' hiS hSk
      have : i' = j' := key_inj he.ek hi' hj' (by rw [hexk, hUk])
      omega
    · obtain ⟨r', hr', hlt'⟩ := defBefore_iff.mp h
      obtain ⟨i', ex, hi'j', hi', hexk, _⟩ := enq_order he hst hP hr' hlt' hj' hUk.symm
      have : i' = j := key_inj he.ek hi' hj (by rw [hexk, hPk])
      omega
  rcases hq.dl j eP m c hj (by rw [hPi, hPit]) hd' hsub with h | h
  · exact h
  · rw [hf] at h; cases h

end Hannibal
