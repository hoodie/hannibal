import Hannibal.Proofs.C05Hold
/-
  C05: once nothing owns a sender any more (no strong handle, no in-flight operation or timer
  holding one) this stays so for ever: weak handles cannot be upgraded, new try_* operations fail at
  their upgrade, timers die at theirs.
-/
namespace Hannibal
open AState

/-- nobody owns a closure of the channel: no strong handle, no in-flight operation that upgraded its handle, no
    timer task in the middle of a send (a parked plain `send` owns an mpsc sender but neither closure) -/
structure NoHolder (s : AState) : Prop where
  nh : ∀ p ∈ s.handles, p.2.strong = false
  no : ∀ r ∈ s.ops, holderKind r.kind = true → r.st = .failed .alreadyStopped
  nt : ∀ x ∈ s.timers, holding x.st = false

theorem noHolder_iff {w : Wiring} (hw : WellWired05 w) (s : AState) (x : Half) :
    NoHolder s ↔ s.halfAlive w x = false := by
  rw [halfAlive_eq hw]
  simp only [Bool.or_eq_false_iff, List.any_eq_false, Bool.and_eq_true, bne_iff_ne, not_and, Decidable.not_not,
    Bool.not_eq_true]
  exact ⟨fun h => ⟨⟨h.nh, h.no⟩, h.nt⟩, fun h => ⟨h.1.1, h.1.2, h.2⟩⟩

theorem noHolder_of_reqFail {w : Wiring} (hw : WellWired05 w) {s : AState} {req : List Half}
    (h : s.reqOk w req = false) : NoHolder s := by
  unfold reqOk at h
  rw [List.all_eq_false] at h
  obtain ⟨x, -, hx⟩ := h
  exact (noHolder_iff hw s x).mpr (by simpa using hx)

theorem NoHolder.reqFails {w : Wiring} (hw : WellWired05 w) {s : AState} (hd : NoHolder s) {req : List Half}
    (hne : req ≠ []) : s.reqOk w req = false := by
  cases hr : s.reqOk w req
  · rfl
  · obtain ⟨x, hx⟩ := alive_of_reqOk hr hne
    rw [(noHolder_iff hw s x).mp hd] at hx; cases hx

theorem NoHolder.not_strong {s : AState} (hd : NoHolder s) : s.handles.any (fun p => p.2.strong) = false :=
  List.any_eq_false.mpr fun p hp => by simp [hd.nh p hp]

theorem convOk_weak {k k' : HKind} (hk : k.strong = false) (hc : convOk k k' = true) : k'.strong = false := by
  cases k <;> first | (cases hk; done) | skip
  all_goals cases k' <;> first | rfl | cases hc

theorem handleKind_mem {s : AState} {h k} (hk : s.handleKind h = some k) : ∃ p ∈ s.handles, p.2 = k := by
  unfold handleKind at hk
  cases hf : s.handles.find? (fun p => p.1 == h) with
  | none => simp [hf] at hk
  | some p =>
    simp [hf] at hk
    exact ⟨p, List.mem_of_find?_eq_some hf, hk⟩

theorem plan_upg_weak {w : Wiring} {hk : HKind} {o : Nat} {k : OpKind} (hok : kindOk k hk = true)
    (hweak : hk.strong = false) : ∃ k', k'.strong = false ∧ (plan w hk o k).upg = w.upgradeReq k' := by
  cases hk <;> first | (cases hweak; done) | (cases k <;> first | (cases hok; done) | exact ⟨_, rfl, rfl⟩)

theorem NoHolder.begin_fails {w : Wiring} (hw : WellWired05 w) {s s' : AState} (hd : NoHolder s) {o h : Nat}
    {k : OpKind} (hs : stepBegin w s o h k = some s') : s' = s.addOp o h k (.failed .alreadyStopped) := by
  obtain ⟨hk, hhk, hok, -, hcase⟩ := stepBegin_cases hs
  obtain ⟨q, hq, rfl⟩ := handleKind_mem hhk
  obtain ⟨k', hk', hupg⟩ := plan_upg_weak (w := w) (o := o) hok (hd.nh q hq)
  rw [hd.reqFails hw (hupg ▸ hw.upg k' hk')] at hcase
  obtain ⟨-, h⟩ | ⟨h, -⟩ | ⟨_, h, -⟩ | ⟨_, h, -⟩ := hcase <;> first | exact h | cases h

theorem NoHolder.new_op_fails {w : Wiring} (hw : WellWired05 w) {s s' : AState} (hd : NoHolder s) {r' : OpRec}
    (hs : step w s (.begin r'.o r'.h r'.kind) = some s') (hops : s'.ops = s.ops ++ [r']) :
    r'.st = .failed .alreadyStopped := by
  rw [hd.begin_fails hw (show stepBegin w s r'.o r'.h r'.kind = some s' from hs)] at hops
  have := List.append_cancel_left hops
  simp only [List.cons.injEq, and_true] at this
  rw [← this]

theorem noHolder_step {w : Wiring} (hw : WellWired05 w) {s s' : AState} {l : Label}
    (hd : NoHolder s) (hs : step w s l = some s') : NoHolder s' := by
  refine ⟨fun p hp => ?_, fun r' hr' hk' => ?_, fun x' hx' => ?_⟩
  · -- a new handle is made from a weak one, without an upgrade
    rcases step_handle_mem hs hp with h | ⟨h, k, -, hk, hc⟩ | ⟨h, k, -, hk, hu, hr⟩ | ⟨h, -, hk⟩ | ⟨-, hweak⟩
    · exact hd.nh p h
    · obtain ⟨q, hq, rfl⟩ := handleKind_mem hk
      exact convOk_weak (hd.nh q hq) hc
    · have hweak : k.strong = false := by cases k <;> first | rfl | cases hu
      rw [hd.reqFails hw (hw.upg k hweak)] at hr; cases hr
    · obtain ⟨q, hq, hq2⟩ := handleKind_mem hk
      have := hd.nh q hq
      rw [hq2] at this; cases this
    · exact hweak
  · -- a failed upgrade stays failed
    rcases step_op_mem hs hr' with ⟨rfl, -, hops⟩ | ⟨r, hr, -, hk, -, hst, -, -⟩
    · exact hd.new_op_fails hw hs hops
    · have := hd.no r hr (hk ▸ hk')
      rcases hst with h | h
      · rw [h, this]
      · rw [this] at h; cases h
  · -- a timer's weak sender does not upgrade any more
    rcases step_timer_mem hs hx' with ⟨k, d, -, hsp, -⟩ | ⟨x, hx, hf⟩
    · rw [hsp]; rfl
    · cases hh : holding x'.st
      · rfl
      · rcases hf.hold hh with ⟨h, -⟩ | ⟨m, -, hr⟩
        · rw [hd.nt x hx] at h; cases h
        · rw [hd.reqFails hw (hw.upg .weakSender rfl)] at hr; cases hr

/-- no mpsc sender is left: nobody holds a closure, and no flow-controlled submission is in flight -/
structure Dead05 (s : AState) : Prop where
  nh : ∀ p ∈ s.handles, p.2.strong = false
  no : ∀ r ∈ s.ops, (holderKind r.kind = true → r.st = .failed .alreadyStopped) ∧
        (isWaitOp r.kind = true → ∃ e, r.st = .failed e)
  nt : ∀ x ∈ s.timers, holding x.st = false

theorem Dead05.noHolder {s : AState} (hd : Dead05 s) : NoHolder s :=
  ⟨hd.nh, fun r hr => (hd.no r hr).1, hd.nt⟩

theorem Dead05.not_alive {w : Wiring} (hw : WellWired05 w) {s : AState} (hd : Dead05 s) :
    s.sendersAlive w = false := by
  simp only [sendersAlive, (noHolder_iff hw s _).mp hd.noHolder, inflight, Bool.false_or, Bool.or_eq_false_iff,
    List.any_eq_false, Bool.and_eq_true]
  refine ⟨fun r hr h => ?_, fun t ht h => ?_⟩
  · obtain ⟨e, he⟩ := (hd.no r hr).2 h.1
    simp [he] at h
  · have := hd.nt t ht
    cases hst : t.st <;> simp [hst, holding] at h this

theorem dead_of_not_alive {w : Wiring} (hw : WellWired05 w) {s : AState} (h : s.sendersAlive w = false) :
    Dead05 s := by
  simp only [sendersAlive, inflight, Bool.or_eq_false_iff, List.any_eq_false, Bool.and_eq_true] at h
  obtain ⟨⟨htx, -⟩, hio, -⟩ := h
  have hn := (noHolder_iff hw s _).mpr htx
  refine ⟨hn.nh, fun r hr => ⟨hn.no r hr, fun hk => ?_⟩, hn.nt⟩
  cases hst : r.st <;> first | exact ⟨_, rfl⟩ | exact absurd ⟨hk, by simp [hst]⟩ (hio r hr)

theorem dead_step {w : Wiring} (hw : WellWired05 w) {s s' : AState} {l : Label}
    (hd : Dead05 s) (hs : step w s l = some s') : Dead05 s' := by
  have hn := noHolder_step hw hd.noHolder hs
  refine ⟨hn.nh, fun r' hr' => ⟨hn.no r' hr', fun hk' => ?_⟩, hn.nt⟩
  -- a new submission fails at its upgrade; one that failed stays failed
  rcases step_op_mem hs hr' with ⟨rfl, -, hops⟩ | ⟨r, hr, -, hk, -, hst, -, -⟩
  · exact ⟨_, hd.noHolder.new_op_fails hw hs hops⟩
  · obtain ⟨e, he⟩ := (hd.no r hr).2 (hk ▸ hk')
    rcases hst with h | h
    · exact ⟨e, h.trans he⟩
    · rw [he] at h; cases h

end Hannibal
