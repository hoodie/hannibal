import Hannibal.Proofs.SysInv
import Hannibal.Monitor.C16
/-
  Projection: inside any run of a system, what happens to one actor is a run of the single-actor model
  over the label sequence `projOf a` (its own labels, a `drop` of the parent's handle when a parent's task
  ends, an `extPush` per registration when a parent broadcasts).  Hence every theorem about the
  single-actor model holds of every actor that exists at the start of the system run.
-/
namespace Hannibal
open AState

theorem run_append (w : Wiring) : ∀ (l1 l2 : List Label) (s : AState),
    run w s (l1 ++ l2) = (run w s l1).bind (fun s' => run w s' l2)
  | [], l2, s => by simp [run]
  | l :: l1, l2, s => by
    simp only [List.cons_append, run]
    cases step w s l with
    | none => simp
    | some s' => simp only; exact run_append w l1 l2 s'

theorem run_drops (w : Wiring) : ∀ (hs : List Nat) (s : AState), (∀ h ∈ hs, s.handleKind h ≠ none) → hs.Nodup →
    run w s (hs.map Label.drop) = some (Sys.dropAll hs s)
  | [], s, _, _ => rfl
  | h :: hs, s, hp, hn => by
    simp only [List.map_cons, run, step]
    have hh := hp h (by simp)
    have hd : s.stepDrop h = some (s.removeHandle h) := by
      unfold stepDrop
      cases hk : s.handleKind h with
      | none => exact absurd hk hh
      | some k => simp
    simp only [hd, Sys.dropAll, List.foldl_cons, Option.getD_some]
    simp only [List.nodup_cons] at hn
    have := run_drops w hs (s.removeHandle h) (fun h' hh' => by
      rw [handleKind_remove_ne s (fun e => hn.1 (by rw [e]; exact hh'))]
      exact hp h' (by simp [hh'])) hn.2
    simpa [Sys.dropAll] using this

theorem run_pushes (w : Wiring) (b : Nat) : ∀ (n : Nat) (s : AState),
    run w s (List.replicate n (Label.extPush b)) = some (Sys.pushAll b n s)
  | 0, s => rfl
  | n + 1, s => by
    simp only [List.replicate_succ, run, step, Sys.pushAll]
    have : s.stepExtPush b = some ((s.stepExtPush b).getD s) := by unfold stepExtPush; split <;> rfl
    rw [this]
    exact run_pushes w b n _

theorem projFrom_cons (kids : List Kid) (a : Nat) (l : SLabel) (ls : List SLabel) :
    projFrom kids a (l :: ls) = emits kids a l ++ projFrom (nextKids kids l) a ls := by
  cases l <;> rfl

theorem heldBy_nodup {S : Sys} (hi : SInv S) (p c : Nat) : (S.heldBy p c).Nodup := by
  unfold Sys.heldBy
  have h1 : ((S.kids.filter (fun k => k.p == p && k.c == c)).map (fun k => (k.c, k.h))).Nodup :=
    hi.nodup.sublist (List.Sublist.map _ List.filter_sublist)
  -- on this sublist the child is fixed, so the handles are pairwise distinct too
  generalize hl : S.kids.filter (fun k => k.p == p && k.c == c) = l at h1
  have hc : ∀ k ∈ l, k.c = c := by
    intro k hk; rw [← hl] at hk
    have := (List.mem_filter.mp hk).2; simp at this; exact this.2
  clear hl
  induction l with
  | nil => simp
  | cons x xs ih =>
    simp only [List.map_cons, List.nodup_cons] at h1 ⊢
    refine ⟨?_, ih h1.2 (fun k hk => hc k (by simp [hk]))⟩
    intro hm
    obtain ⟨y, hy, hyx⟩ := List.mem_map.mp hm
    apply h1.1
    exact List.mem_map.mpr ⟨y, hy, by simp [hyx, hc y (by simp [hy]), hc x (by simp)]⟩

theorem heldBy_present {S : Sys} (hi : SInv S) (p c : Nat) {sc : AState} (hg : S.get c = some sc) :
    ∀ h ∈ S.heldBy p c, sc.handleKind h ≠ none := by
  intro h hh
  simp only [Sys.heldBy, List.mem_map, List.mem_filter] at hh
  obtain ⟨k, ⟨hk, hc⟩, rfl⟩ := hh
  simp at hc
  obtain ⟨sc', hg', h1, _⟩ := hi.held k hk
  rw [hc.2, hg] at hg'; simp at hg'; subst hg'
  rw [h1]; simp

theorem sstep_proj {w : Wiring} {S S' : Sys} {l : SLabel} (hi : SInv S) (hs : sstep w S l = some S')
    {a : Nat} {sa : AState} (hg : S.get a = some sa) :
    ∃ sa', S'.get a = some sa' ∧ run w sa (emits S.kids a l) = some sa' := by
  cases l with
  | spawn a0 cfg h0 k0 =>
    obtain ⟨hn, rfl⟩ := sstep_spawn hs
    exact ⟨sa, by rw [Sys.get_append_new S a0 a _ hn, if_neg (fun e => by rw [e, hn] at hg; cases hg)]; exact hg, rfl⟩
  | act a0 l =>
    obtain ⟨s, s', hg0, hcl, hst, hget⟩ := get_act hs
    -- the label itself, if the step is the actor's own; the handles its parent owns are still there afterwards
    obtain ⟨mid, hmid, hrun, hpres⟩ : ∃ mid, (if a = a0 then some s' else S.get a) = some mid ∧
        run w sa (if a0 = a then [l] else []) = some mid ∧ ∀ h ∈ S.heldBy a0 a, mid.handleKind h ≠ none := by
      by_cases ha : a = a0
      · subst ha
        rw [hg0] at hg; cases hg
        refine ⟨s', if_pos rfl, by simp [run, hst], fun h hh => ?_⟩
        simp only [Sys.heldBy, List.mem_map, List.mem_filter, Bool.and_eq_true, beq_iff_eq] at hh
        obtain ⟨k, ⟨hk, -, hc⟩, rfl⟩ := hh
        obtain ⟨sc', hg', h1, h2⟩ := hi.held k hk
        rw [hc, hg0] at hg'; cases hg'
        rw [(step_keeps_sender hst h1 h2 (clientOk_not_drop hcl k hk hc)).1]; nofun
      · exact ⟨sa, by rw [if_neg ha]; exact hg, by rw [if_neg (Ne.symm ha)]; rfl, heldBy_present hi a0 a hg⟩
    refine ⟨_, by rw [hget, hmid]; rfl, ?_⟩
    simp only [emits]
    rw [run_append, hrun, Option.bind_some]
    split
    · -- the context is dropped: one `drop` per handle it owned
      have : (S.kids.filter (fun k => k.p == a0 && k.c == a)).map (fun k => Label.drop k.h)
          = (S.heldBy a0 a).map Label.drop := by simp [Sys.heldBy, List.map_map]
      rw [this]
      exact run_drops w _ _ hpres (heldBy_nodup hi _ _)
    · rfl
  | addChild p ty c h =>
    obtain ⟨sp, sc, -, -, -, -, -, -, rfl⟩ := sstep_addChild hs
    exact ⟨sa, hg, rfl⟩
  | bcast p ty b =>
    obtain ⟨sp, -, -, rfl⟩ := sstep_bcast hs
    refine ⟨_, by simp only [Sys.broadcast]; rw [Sys.get_applyTo, hg]; rfl, ?_⟩
    simp only [emits, List.map_const']
    exact run_pushes w b _ sa

theorem srun_proj {w : Wiring} : ∀ (ls : List SLabel) (S S' : Sys), SInv S → srun w S ls = some S' →
    ∀ {a : Nat} {sa : AState}, S.get a = some sa →
      ∃ sa', S'.get a = some sa' ∧ run w sa (projFrom S.kids a ls) = some sa'
  | [], S, S', _, hr, a, sa, hg => by
    simp [srun] at hr; subst hr; exact ⟨sa, hg, rfl⟩
  | l :: ls, S, S', hi, hr, a, sa, hg => by
    simp only [srun] at hr
    cases hs : sstep w S l with
    | none => simp [hs] at hr
    | some S1 =>
      simp only [hs] at hr
      obtain ⟨s1, hg1, hr1⟩ := sstep_proj hi hs hg
      obtain ⟨sa', hg', hr'⟩ := srun_proj ls S1 S' (sinv_step hi hs) hr hg1
      refine ⟨sa', hg', ?_⟩
      rw [projFrom_cons, run_append, hr1, ← sstep_kids hs]
      exact hr'

theorem SMon.run_folds {σ : Type} (m : SMon σ) : Folds m.step m.run := ⟨fun _ => rfl, fun _ _ _ => rfl⟩

theorem srun_lift {σ : Type} (m : SMon σ) (w : Wiring) (Inv : Sys → σ → Prop)
    (hstep : ∀ S S' st l, Inv S st → sstep w S l = some S' → ∃ st', m.step st l = some st' ∧ Inv S' st') :
    ∀ (ls : List SLabel) (S S' : Sys) (st : σ), Inv S st → srun w S ls = some S' →
      ∃ st', m.run st ls = some st' ∧ Inv S' st' :=
  (srun_folds w).sim m.run_folds Inv hstep

end Hannibal
