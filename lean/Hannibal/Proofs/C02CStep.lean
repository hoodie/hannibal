import Hannibal.Proofs.C02Wait
import Hannibal.Proofs.C11CQueue
/-
  Model facts behind C02c: a step other than `begin` / `ret` / `cdrop` fails or cancels nobody, or only the
  owner of the reply slot of the open callback (which is over then), or the mailbox is gone; the normal end
  of a handler invocation answers its reply slot; a submission that went through leaves a non-failed record.
-/
namespace Hannibal
open AState

/-- the statuses in which a call operation returns an error -/
def errSt02c : OpSt → Bool
  | .cancelled | .failed _ => true
  | _ => false

/-- the statuses that are final and in which a call operation does not return an error -/
def okSt02c : OpSt → Bool
  | .pending | .cancelled | .failed _ => false
  | _ => true

theorem okSt02c_not_pending {st : OpSt} (h : okSt02c st = true) : st ≠ .pending := by
  intro he; subst he; simp [okSt02c] at h

theorem resolve_err02c {p : OpRec → Bool} {st : OpSt} {r : OpRec} (h : errSt02c r.st = false)
    (hst : errSt02c st = false ∨ p r = false) : errSt02c (resolve p st r).st = false := by
  rcases resolve_cases p st r with he | ⟨hp, -, he⟩ <;> rw [he]
  · exact h
  · rcases hst with hst | hst
    · exact hst
    · rw [hp] at hst; cases hst

def Keep02c (s s' : AState) : Prop :=
  ∃ f : OpRec → OpRec, s'.ops = s.ops.map f ∧ (∀ r, (f r).o = r.o) ∧ (∀ r, (f r).kind = r.kind) ∧
    ∀ r, errSt02c r.st = false → errSt02c (f r).st = false

theorem Keep02c.of_eq {s s' : AState} (h : s'.ops = s.ops) : Keep02c s s' :=
  ⟨fun r => r, by simp [h], fun _ => rfl, fun _ => rfl, fun _ h => h⟩

theorem Keep02c.of_resolve {s s' : AState} {p st} (h : s'.ops = s.ops.map (resolve p st))
    (hst : errSt02c st = false) : Keep02c s s' :=
  ⟨_, h, resolve_o p st, resolve_kind p st, fun _ hr => resolve_err02c hr (.inl hst)⟩

theorem keep02c_cases {w s l s'} (hs : step w s l = some s') (hl : l.isOpEdge = false) :
    Keep02c s s' ∨
      (s'.ops = s.ops.map (resolve (fun r => s.curSlot.contains r.o) .cancelled) ∧ s'.chan = s.chan ∧
        ∀ cb sl dl, s'.phase ≠ .handling cb sl dl) ∨
      (s'.chan.queue = [] ∧ ∀ cb sl dl, s'.phase ≠ .handling cb sl dl) := by
  cases step_opsChange hs hl with
  | same h => exact .inl (.of_eq h)
  | broken _ _ _ h hc hp => exact .inr (.inl ⟨h, hc, hp⟩)
  | gone _ _ hq hp => exact .inr (.inr ⟨hq, hp⟩)
  | answer _ _ _ _ _ h | ping _ _ _ _ h => exact .inl (.of_resolve h rfl)

theorem stepCbEnd_handle02c {w s m s'} (hs : step w s (.cbEnd (.handle m) true) = some s') :
    ∃ slot dl, s.phase = .handling (.handle m) slot dl ∧ s'.ops = (s.answer slot m).ops := by
  cases step_loop hs rfl with
  | handled _ slot dl _ hp => exact ⟨slot, dl, hp, rfl⟩

theorem answered_ok02c (v : Reply) {r : OpRec} (h : errSt02c r.st = false) :
    okSt02c (resolve (·.o == r.o) (.answered v) r).st = true := by
  rcases resolve_cases (·.o == r.o) (.answered v) r with he | ⟨-, -, he⟩ <;> rw [he]
  · have := resolve_not_pending (p := (·.o == r.o)) (r := r) (st := .answered v) (beq_self_eq_true r.o) nofun
    rw [he] at this
    cases hst : r.st <;> simp_all [okSt02c, errSt02c]
  · rfl

theorem stepBegin_push02c {w s o h k s'} (hs : stepBegin w s o h k = some s') :
    ∃ st, s'.ops = s.ops ++ [{ o, h, kind := k, st }] ∧ (s'.chan = s.chan ∨ errSt02c st = false) := by
  obtain ⟨_, st, hops, hout, _⟩ := stepBegin_ops hs
  refine ⟨st, hops, ?_⟩
  cases hout with
  | refused e hst hc hk => exact .inl hc
  | wait hpl hc hst => exact .inl hc
  | sent pl tok hpl hrx hc hst =>
    right
    rcases hst with ⟨_, rfl | rfl⟩ | ⟨_, rfl⟩ <;> rfl

theorem qms_qmsgs02c {c : Chan} {x : Nat × Option Nat} (h : x ∈ qms11c c) : x.1 ∈ qmsgs c := by
  unfold qms11c at h
  obtain ⟨e, he, hx⟩ := List.mem_filterMap.mp h
  refine List.mem_filterMap.mpr ⟨e, he, ?_⟩
  cases hpl : e.pl <;> simp [hpl, msgSlot11c] at hx
  subst hx; simp [msgNo]

end Hannibal
