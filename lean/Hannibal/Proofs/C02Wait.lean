import Hannibal.Proofs.C02Chan
/-
  C02, "nothing hangs": a pending call / ping has its payload in the queue or is the slot of the
  invocation in progress; a pending halt / consume has its `stop` in the queue or the loop has left.
-/
namespace Hannibal
open AState

def needsSlot (r : OpRec) : Bool := r.st == .pending && (r.kind.isCall || r.kind == .ping)

def needsStop (r : OpRec) : Bool :=
  (r.st == .pending && (r.kind == .halt || r.kind == .tryHalt)) || (r.st == .joining && r.kind == .consume)

def pastLoop : Phase → Bool
  | .leaving | .finishing | .finishedDone | .stopping | .exiting _ | .done _ => true
  | _ => false

def stopLive (s : AState) : Bool := pastLoop s.phase || s.chan.queue.any (fun e => e.pl == .stop)

theorem slotEntry_keep {w s l s'} (hs : step w s l = some s') (hl : l.isLoop = false) {e : Entry}
    (he : e ∈ s.chan.queue) (hpl : slotOf e.pl ≠ none ∨ e.pl = .stop) : e ∈ s'.chan.queue := by
  cases step_chanOf hs with
  | same _ h => rw [h]; exact he
  | enq pl tok t _ _ _ h => rw [h, Chan.enq_queue]; exact List.mem_append_left _ he
  | bind pl m tok rest hb hq h =>
    rw [h]; rw [hq] at he
    rcases List.mem_cons.mp he with rfl | he
    · cases hb <;> rcases hpl with h1 | h1 <;> first | exact absurd rfl h1 | cases h1
    · exact List.mem_cons_of_mem _ he
  | deq _ _ _ ht => cases ht <;> cases hl
  | drop ht => cases l <;> first | (cases ht; done) | cases hl

theorem stopLive_step {w : Wiring} {s s' : AState} {l : Label} (hs : step w s l = some s')
    (h : stopLive s = true) : stopLive s' = true := by
  cases hl : l.isLoop
  · simp only [stopLive, Bool.or_eq_true, List.any_eq_true, beq_iff_eq] at h ⊢
    rw [step_phase hs hl]
    exact h.imp id (fun ⟨e, he, hpl⟩ => ⟨e, slotEntry_keep hs hl he (.inr hpl), hpl⟩)
  · -- the loop takes the `stop` out only to leave; whatever else it takes out is not a `stop`
    have h' := step_loop hs hl
    clear hs
    cases h' <;> simp_all [stopLive, pastLoop, Chan.deq]

/-- only a handler invocation carries a reply slot -/
def slotCb : Phase → Bool
  | .handling (.handle _) _ _ => true
  | .handling _ (some _) _ => false
  | _ => true

theorem slotCb_handle {cb : Cb} {o : Nat} {dl : Option Nat} (h : slotCb (.handling cb (some o) dl) = true) :
    ∃ m, cb = .handle m := by
  cases cb <;> first | exact ⟨_, rfl⟩ | cases h

theorem slotCb_step {w : Wiring} {s s' : AState} {l : Label} (hs : step w s l = some s')
    (h : slotCb s.phase = true) : slotCb s'.phase = true := by
  cases hl : l.isLoop
  · rw [step_phase hs hl]; exact h
  · cases step_loop hs hl <;> first | rfl | exact h

theorem curSlot_of_phase {s s' : AState} (h : s'.phase = s.phase) : s'.curSlot = s.curSlot := by
  unfold curSlot; rw [h]

theorem map_resolve_not_pending {ops ops' : List OpRec} {p : OpRec → Bool} {st : OpSt} {o : Nat}
    (h : ops' = ops.map (resolve p st)) (hst : st ≠ .pending) (hp : ∀ r, r.o = o → p r = true) :
    ∀ r' ∈ ops', r'.o = o → r'.st ≠ .pending := by
  intro r' hr' hro
  rw [h] at hr'
  obtain ⟨r, -, rfl⟩ := List.mem_map.mp hr'
  exact resolve_not_pending (hp r (by rw [← hro, resolve_o])) hst

theorem step_slotsLive {w : Wiring} {s s' : AState} {l : Label} (hs : step w s l = some s')
    (hcb : slotCb s.phase = true) :
    ∀ o ∈ s.slotsLive, o ∈ s'.slotsLive ∨ ∀ r' ∈ s'.ops, r'.o = o → r'.st ≠ .pending := by
  intro o ho
  rw [mem_slotsLive_iff] at ho
  cases hl : l.isLoop
  · refine .inl (mem_slotsLive_iff.mpr ?_)
    rw [curSlot_of_phase (step_phase hs hl)]
    exact ho.imp id (fun ⟨e, he, hsl⟩ => ⟨e, slotEntry_keep hs hl he (.inl (by simp [hsl])), hsl⟩)
  have h' := step_loop hs hl
  clear hs
  cases h'
  case handle m slot tok rest hp hq hrx =>
    refine .inl (mem_slotsLive_iff.mpr ?_)
    simp only [curSlot, hp, hq, List.mem_cons, List.not_mem_nil, false_or] at ho
    obtain ⟨e, rfl | he, hsl⟩ := ho
    · cases slot with
      | none => simp [slotOf] at hsl
      | some o' =>
        obtain rfl : o' = o := by simpa [slotOf] using hsl
        exact .inl (by simp [curSlot])
    · exact .inr ⟨e, by simpa [Chan.deq, hq] using he, hsl⟩
  case handled m slot dl hw hp =>
    rcases ho with ho | ho
    · rw [curSlot_handling hp] at ho
      cases slot with
      | none => cases ho
      | some o' =>
        obtain rfl : o = o' := by simpa using ho
        exact .inr (map_resolve_not_pending (answer_some_ops s o m) nofun (fun r hr => by simpa using hr))
    · exact .inl (mem_slotsLive_iff.mpr (.inr ho))
  case itemDone k slot dl hw hp =>
    cases slot with
    | none => exact .inl (mem_slotsLive_iff.mpr (by simpa [curSlot, hp] using ho))
    | some o' => simp [slotCb, hp] at hcb
  case timeout cb slot dl hp hdl hf | timeoutFatal cb slot dl hp hdl hf =>
    rcases ho with ho | ho
    · rw [curSlot_handling hp] at ho
      exact .inr (map_resolve_not_pending (cancelSlots_ops s _) nofun (fun r hr => by simpa [hr] using ho))
    · exact .inl (mem_slotsLive_iff.mpr (.inr ho))
  case panic cb hopen =>
    rcases ho with ho | ho
    · exact .inr (map_resolve_not_pending (cancelSlots_ops s _) nofun (fun r hr => by simpa [hr] using ho))
    · exact .inl (mem_slotsLive_iff.mpr (.inr ho))
  case cancel | doneErr | panicErr =>
    exact .inr (map_resolve_not_pending (cancelSlots_ops s _) nofun (fun r hr => by simpa [hr, slotsLive] using ho))
  case doneOk hp =>
    refine .inr (map_resolve_not_pending (cancelSlots_ops s _) nofun (fun r hr => ?_))
    simpa [hr, curSlot, hp] using ho
  case panicRestart tok rest hp hq hst hrx =>
    refine .inr (map_resolve_not_pending (cancelSlots_ops _ _) nofun (fun r hr => ?_))
    simpa [hr, curSlot, hp, hq, Chan.deq, slotOf] using ho
  case ping e rest o' hp hq hrx he =>
    simp only [curSlot, hp, hq, List.mem_cons, List.not_mem_nil, false_or] at ho
    obtain ⟨e', rfl | he', hsl⟩ := ho
    · obtain rfl : o' = o := by simpa [he, slotOf] using hsl
      exact .inr (map_resolve_not_pending (p := (·.o == o')) rfl nofun (fun r hr => by simpa using hr))
    · exact .inl (mem_slotsLive_iff.mpr (.inr ⟨e', by simpa [Chan.deq, hq] using he', hsl⟩))
  case stop e rest hp hq hrx he | restartIgnored e rest hp hq hrx he _ _ | restartTaken e rest hp hq hrx he _ _ =>
    simp only [curSlot, hp, hq, List.mem_cons, List.not_mem_nil, false_or] at ho
    obtain ⟨e', rfl | he', hsl⟩ := ho
    · simp [he, slotOf] at hsl
    · exact .inl (mem_slotsLive_iff.mpr (.inr ⟨e', by simpa [Chan.deq, hq] using he', hsl⟩))
  -- the remaining moves are between phases without an invocation in progress and leave the mailbox alone
  all_goals exact .inl (mem_slotsLive_iff.mpr (by simp_all [curSlot]))

end Hannibal
