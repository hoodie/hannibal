import Hannibal.Proofs.Handles
/-
  Receiver liveness and the timer table: what one step does to the timers (`step_timersOf`), and
  how `findTimer` reads through `setTimer` / `killTimers`.
-/
namespace Hannibal
open AState

variable {w : Wiring} {s s' : AState} {l : Label}

def RxInv (s : AState) : Prop := s.isDone = true ∨ s.chan.rx = true

theorem rxInv_init (cfg : Cfg) (h0 : Nat) (k0 : HKind) : RxInv (AState.init cfg h0 k0) := by
  simp [RxInv, AState.init, Chan.init]

theorem rxInv_step (hs : step w s l = some s') (hi : RxInv s) : RxInv s' := by
  obtain ⟨h1, h2⟩ := step_isDone w hs
  cases ht : l.terminates
  · unfold RxInv; rw [h2 ht, (step_chanOf hs).rx ht]; exact hi
  · exact .inl (h1 ht)

theorem findTimer_mem {t x} (h : s.findTimer t = some x) : x ∈ s.timers ∧ x.id = t :=
  ⟨List.mem_of_find?_eq_some h, by simpa using List.find?_some h⟩

theorem findTimer_of_timers_eq (h : s'.timers = s.timers) (t : Nat) : s'.findTimer t = s.findTimer t := by
  unfold findTimer; rw [h]

theorem findTimer_push {pl path tok t} : (s.push pl path tok).findTimer t = s.findTimer t := rfl

theorem findTimer_setTimer (s : AState) (t t' : Nat) (st : TimerSt) :
    (s.setTimer t' st).findTimer t =
      (s.findTimer t).map (fun x => if x.id == t' then { x with st := st } else x) := by
  unfold findTimer setTimer
  rw [List.find?_map]
  congr 2; funext x
  show ((if _ then _ else _ : Timer).id == t) = _
  split <;> rfl

theorem findTimer_setTimer_ne {t t' : Nat} {st} (h : t ≠ t') : (s.setTimer t' st).findTimer t = s.findTimer t := by
  rw [findTimer_setTimer]
  cases hx : s.findTimer t with
  | none => rfl
  | some x => simp [(findTimer_mem hx).2, h]

theorem findTimer_setTimer_eq {t : Nat} {st x} (h : s.findTimer t = some x) :
    (s.setTimer t st).findTimer t = some { x with st := st } := by
  simp [findTimer_setTimer, h, (findTimer_mem h).2]

theorem eq_of_find_nodup (l : List Timer) (hn : (l.map (fun x => x.id)).Nodup) {t : Nat} {x y : Timer}
    (hx : l.find? (fun z => z.id == t) = some x) (hy : y ∈ l) (hid : y.id = t) : y = x :=
  have hxt : x.id = t := by simpa using List.find?_some hx
  eq_of_nodup_map _ hn hy (List.mem_of_find?_eq_some hx) (hid.trans hxt.symm)

/-- the timer task is over (aborted, finished, or seen to end) -/
def Timer.Dead (x : Timer) : Prop := x.st = .dead ∨ x.st = .deadHolding ∨ x.st = .ended

def AllDead (s : AState) : Prop := ∀ x ∈ s.timers, x.Dead

theorem allDead_killTimers (s : AState) : AllDead s.killTimers := by
  intro x hx
  obtain ⟨y, -, rfl⟩ := List.mem_map.mp hx
  unfold Timer.Dead
  split
  · exact .inr (.inr ‹_›)
  · split <;> simp

theorem allDead_fail (s : AState) : AllDead s.fail := allDead_killTimers (s.cancelSlots _)

theorem allDead_finish (s : AState) : AllDead s.finish := allDead_killTimers (s.cancelSlots _)

theorem allDead_setTimer (h : AllDead s) (t : Nat) (st : TimerSt) (hst : st = .dead ∨ st = .deadHolding ∨ st = .ended) :
    AllDead (s.setTimer t st) := by
  intro x hx
  obtain ⟨y, hy, rfl⟩ := List.mem_map.mp hx
  split
  · exact hst
  · exact h y hy

def AState.timerIds (s : AState) : List Nat := s.timers.map (·.id)

@[simp] theorem setTimer_ids (s : AState) (t st) : (s.setTimer t st).timerIds = s.timerIds := by
  unfold timerIds setTimer
  simp only [List.map_map]
  congr 1; funext x; simp only [Function.comp]; split <;> rfl

@[simp] theorem killTimers_ids (s : AState) : s.killTimers.timerIds = s.timerIds := by
  unfold timerIds killTimers
  simp only [List.map_map]
  congr 1; funext x; simp only [Function.comp]; split
  · rfl
  · split <;> rfl

@[simp] theorem push_ids (s : AState) (pl path tok) : (s.push pl path tok).timerIds = s.timerIds := rfl
@[simp] theorem cancelSlots_ids (s : AState) (l) : (s.cancelSlots l).timerIds = s.timerIds := rfl
@[simp] theorem cancelSlots_timers (s : AState) (l) : (s.cancelSlots l).timers = s.timers := rfl
@[simp] theorem fail_ids (s : AState) : s.fail.timerIds = s.timerIds := killTimers_ids (s.cancelSlots _)
@[simp] theorem finish_ids (s : AState) : s.finish.timerIds = s.timerIds := killTimers_ids (s.cancelSlots _)
@[simp] theorem refreshTimers_ids (w) (s : AState) : (s.refreshTimers w).timerIds = s.timerIds := by
  unfold refreshTimers; split <;> simp

@[simp] theorem answer_timers (s : AState) (sl m) : (s.answer sl m).timers = s.timers := by
  unfold answer; split <;> rfl
@[simp] theorem killTimers_ids' (s : AState) :
    List.map (fun x => x.id) s.killTimers.timers = List.map (fun x => x.id) s.timers := killTimers_ids s
@[simp] theorem setTimer_ids' (s : AState) (t st) :
    List.map (fun x => x.id) (s.setTimer t st).timers = List.map (fun x => x.id) s.timers := setTimer_ids s t st
@[simp] theorem fail_ids' (s : AState) :
    List.map (fun x => x.id) s.fail.timers = List.map (fun x => x.id) s.timers := fail_ids s
@[simp] theorem finish_ids' (s : AState) :
    List.map (fun x => x.id) s.finish.timers = List.map (fun x => x.id) s.timers := finish_ids s

theorem findTimer_none_iff {t : Nat} : s.findTimer t = none ↔ t ∉ s.timerIds := by
  simp [findTimer, timerIds]

theorem eq_of_findTimer (hn : s.timerIds.Nodup) {t : Nat} {x y : Timer}
    (hx : s.findTimer t = some x) (hy : y ∈ s.timers) (hid : y.id = t) : y = x :=
  eq_of_find_nodup s.timers hn hx hy hid

theorem stepFire_spec {w : Wiring} {s : AState} {t : Nat} {m : Option Nat} {s' : AState}
    (hs : stepFire w s t m = some s') :
    ∃ x due, s.findTimer t = some x ∧ x.st = .sleeping due ∧ due ≤ s.clock ∧ s'.clock = s.clock ∧
      ((s'.timers = (s.setTimer t .sending).timers ∧ (x.kind = .intervalWith ∨ x.kind = .delayedSend)) ∨
       s'.timers = (s.setTimer t .dead).timers) := by
  obtain ⟨x, due, hx, hst, hdue, h⟩ := stepFire_cases hs
  refine ⟨x, due, hx, hst, hdue, ?_⟩
  rcases h with ⟨-, -, rfl⟩ | ⟨n, hk, -, ⟨-, -, rfl⟩ | ⟨-, rfl⟩⟩
  · exact ⟨rfl, .inr rfl⟩
  · exact ⟨rfl, .inl ⟨rfl, hk⟩⟩
  · exact ⟨rfl, .inr rfl⟩

/-- The moves of the task of the timer `x` found under `t`: the label, what allows the move, and the state the timer
    is left in.  (`stepTimerArm_cases`, `stepFire_cases` and `stepTimerEnd_cases` as one relation.) -/
inductive TimerTask (w : Wiring) (s : AState) (t : Nat) (x : Timer) : Label → TimerSt → Prop
  | arm (due) (hdue : due = s.clock + x.d) (hst : x.st = .spawned) : TimerTask w s t x (.timerArm t due) (.sleeping due)
  | tick (due old) (hdue : due = s.clock + x.d) (hst : x.st = .sleeping old) (hk : x.kind = .interval)
      (hold : old ≤ s.clock) (hr : s.reqOk w (w.upgradeReq .weakSender) = true) (hrx : s.chan.rx = true) :
      TimerTask w s t x (.timerArm t due) (.sleeping due)
  | rearm (due) (hdue : due = s.clock + x.d) (hst : x.st = .sending) (hk : x.kind = .intervalWith)
      (hp : s.chan.isParked (.timer t) = false) : TimerTask w s t x (.timerArm t due) (.sleeping due)
  | exec (due) (hst : x.st = .sleeping due) (hdue : due ≤ s.clock) (hk : x.kind = .delayedExec) :
      TimerTask w s t x (.fire t none) .dead
  | send (due n) (hst : x.st = .sleeping due) (hdue : due ≤ s.clock)
      (hk : x.kind = .intervalWith ∨ x.kind = .delayedSend)
      (hr : s.reqOk w (w.upgradeReq .weakSender) = true) (hrx : s.chan.rx = true) :
      TimerTask w s t x (.fire t (some n)) .sending
  | sendFail (due n) (hst : x.st = .sleeping due) (hdue : due ≤ s.clock)
      (hk : x.kind = .intervalWith ∨ x.kind = .delayedSend)
      (hr : (s.reqOk w (w.upgradeReq .weakSender) && s.chan.rx) = false) : TimerTask w s t x (.fire t (some n)) .dead
  | ended (h : x.st = .dead ∨ x.st = .deadHolding ∨
        (∃ due, x.st = .sleeping due ∧ x.kind = .interval ∧ due ≤ s.clock ∧
          (s.reqOk w (w.upgradeReq .weakSender) && s.chan.rx) = false) ∨
        (x.st = .sending ∧ x.kind = .delayedSend ∧ s.chan.isParked (.timer t) = false)) :
      TimerTask w s t x (.timerEnd t) .ended

theorem TimerTask.of_dead {t x st} (h : TimerTask w s t x l st) (hd : x.Dead) : st = .ended := by
  cases h <;> first | rfl | (simp only [Timer.Dead, *] at hd; simp at hd)

/-- What a step does to the timer table: nothing; every timer task is aborted (the loop task ends, or the `stopped`
    of a restart resets the timers); a callback registers a timer under a new id; or one timer task moves. -/
inductive TimersOf (w : Wiring) (s : AState) (l : Label) (ts' : List Timer) : Prop
  | same (hl : l.isTimer = false) (h : ts' = s.timers)
  | kill (hl : l.terminates = true ∨ (l = .cbEnd .stopped true ∧ s.phase = .rstStopping)) (h : ts' = s.killTimers.timers)
  | reg (t k d) (hl : l = .ctxTimer t k d) (hnew : s.timers.any (fun x => x.id == t) = false)
      (h : ts' = s.timers ++ [{ id := t, kind := k, d, st := .spawned }])
  | task (t x st) (hx : s.findTimer t = some x) (hl : TimerTask w s t x l st) (h : ts' = (s.setTimer t st).timers)

theorem step_timersOf (hs : step w s l = some s') : TimersOf w s l s'.timers := by
  cases hlp : l.isLoop
  · cases hlt : l.isTimer
    · exact .same hlt ((step_frame hs hlp).timers hlt)
    · cases l <;> first | (cases hlt; done) | skip
      all_goals simp only [step] at hs
      case ctxTimer t k d => obtain ⟨-, hnew, rfl⟩ := stepCtxTimer_cases hs; exact .reg t k d rfl hnew rfl
      case fire t m =>
        obtain ⟨x, due, hx, hst, hdue, ⟨hk, rfl, rfl⟩ | ⟨n, hk, rfl, ⟨hr, hrx, rfl⟩ | ⟨hr, rfl⟩⟩⟩ := stepFire_cases hs
        · exact .task t x _ hx (.exec due hst hdue hk) rfl
        · exact .task t x _ hx (.send due n hst hdue hk hr hrx) rfl
        · exact .task t x _ hx (.sendFail due n hst hdue hk hr) rfl
      case timerArm t due =>
        obtain ⟨x, hx, hdue, ⟨hst, rfl⟩ | ⟨old, hst, hk, hold, hr, hrx, rfl⟩ | ⟨hst, hk, hp, rfl⟩⟩ :=
          stepTimerArm_cases hs
        · exact .task t x _ hx (.arm due hdue hst) rfl
        · exact .task t x _ hx (.tick due old hdue hst hk hold hr hrx) rfl
        · exact .task t x _ hx (.rearm due hdue hst hk hp) rfl
      case timerEnd t => obtain ⟨x, hx, rfl, hc⟩ := stepTimerEnd_cases hs; exact .task t x _ hx (.ended hc) rfl
  · cases step_loop hs hlp
    case stoppedEndRst hw hp =>
      show TimersOf w s _ (s.refreshTimers w).timers
      unfold refreshTimers; split
      · exact .kill (.inr ⟨rfl, hp⟩) rfl
      · exact .same rfl rfl
    case cancel | doneOk | doneErr | panicErr | panicRestart => exact .kill (.inl rfl) rfl
    all_goals exact .same rfl rfl

def Label.touchesTimers : Label → Bool
  | .ctxTimer _ _ _ | .timerArm _ _ | .timerEnd _ | .fire _ _ | .cbEnd .stopped _
  | .cancel | .taskPanic | .taskDone => true
  | _ => false

theorem step_timers_same (hs : step w s l = some s') (hl : l.touchesTimers = false) : s'.timers = s.timers := by
  cases step_timersOf hs with
  | same _ h => exact h
  | kill hk =>
    rcases hk with hk | ⟨rfl, -⟩
    · cases l <;> first | (cases hk; done) | cases hl
    · cases hl
  | reg _ _ _ hr => subst hr; cases hl
  | task _ _ _ _ ht => cases ht <;> cases hl


theorem step_timers_kill (hs : step w s l = some s') (hl : l.isTimer = false) :
    s'.timers = s.timers ∨ s'.timers = s.killTimers.timers := by
  cases step_timersOf hs with
  | same _ h => exact .inl h
  | kill _ h => exact .inr h
  | reg _ _ _ hr => subst hr; cases hl
  | task _ _ _ _ ht => cases ht <;> cases hl

/-- How the state of the timer with id `id` may change at label `l`: only its own task's labels move it, only
    `timerEnd` ends it, and an abort leaves a timer that had not ended dead. -/
def TimerMove (l : Label) (id : Nat) (a b : TimerSt) : Prop :=
  a = b ∨ (((∃ due, l = .timerArm id due) ∨ ∃ m, l = .fire id m) ∧ b ≠ .ended) ∨
    (l = .timerEnd id ∧ b = .ended) ∨ (a ≠ .ended ∧ (b = .dead ∨ b = .deadHolding))

def killT (t : Timer) : Timer :=
  if t.st = .ended then t
  else if t.st = .sending ∨ t.st = .deadHolding then { t with st := .deadHolding }
  else { t with st := .dead }

theorem killTimers_eq (s : AState) : s.killTimers.timers = s.timers.map killT := rfl
theorem fail_timers (s : AState) : s.fail.timers = s.timers.map killT := rfl
theorem finish_timers (s : AState) : s.finish.timers = s.timers.map killT := rfl

def TimersMap (l : Label) (ts ts' : List Timer) : Prop :=
  ∃ f : Timer → Timer, ts' = ts.map f ∧ ∀ x, (f x).id = x.id ∧ TimerMove l x.id x.st (f x).st

theorem step_timers_map (hs : step w s l = some s') (hl : ∀ t k d, l ≠ .ctxTimer t k d) :
    TimersMap l s.timers s'.timers := by
  cases step_timersOf hs with
  | same _ h => exact ⟨id, by rw [h, List.map_id], fun x => ⟨rfl, .inl rfl⟩⟩
  | kill _ h =>
    refine ⟨killT, h, fun x => ?_⟩
    unfold killT; split
    · exact ⟨rfl, .inl rfl⟩
    · rename_i he; split
      · exact ⟨rfl, .inr (.inr (.inr ⟨he, .inr rfl⟩))⟩
      · exact ⟨rfl, .inr (.inr (.inr ⟨he, .inl rfl⟩))⟩
  | reg t k d hr => exact absurd hr (hl t k d)
  | task t x st _ ht h =>
    refine ⟨_, h, fun y => ?_⟩
    split
    · rename_i hy
      refine ⟨rfl, ?_⟩
      rw [eq_of_beq hy]
      cases ht <;> first
        | exact .inr (.inl ⟨.inl ⟨_, rfl⟩, nofun⟩)
        | exact .inr (.inl ⟨.inr ⟨_, rfl⟩, nofun⟩)
        | exact .inr (.inr (.inl ⟨rfl, rfl⟩))
    · exact ⟨rfl, .inl rfl⟩

theorem allDead_step (hs : step w s l = some s') (h : AllDead s) (hl : ∀ t k d, l ≠ .ctxTimer t k d) :
    AllDead s' := by
  unfold AllDead
  cases step_timersOf hs with
  | same _ e => rw [e]; exact h
  | kill _ e => rw [e]; exact allDead_killTimers s
  | reg t k d hr => exact absurd hr (hl t k d)
  | task t x st hx ht e =>
    rw [e, ht.of_dead (h x (findTimer_mem hx).1)]; exact allDead_setTimer h t _ (.inr (.inr rfl))

theorem timerIds_of_eq {s s' : AState} (h : s'.timers = s.timers) : s'.timerIds = s.timerIds :=
  by unfold AState.timerIds; rw [h]

theorem step_timer_ids (hs : step w s l = some s') (hl : ∀ t k d, l ≠ .ctxTimer t k d) :
    s'.timerIds = s.timerIds := by
  unfold timerIds
  cases step_timersOf hs with
  | same _ e => rw [e]
  | kill _ e => rw [e]; exact killTimers_ids' s
  | reg t k d hr => exact absurd hr (hl t k d)
  | task t x st _ _ e => rw [e]; exact setTimer_ids' s t st

theorem timerDead_step (hs : step w s l = some s') {t : Nat} (hl : ∀ k d, l ≠ .ctxTimer t k d)
    (h : ∀ x, s.findTimer t = some x → x.Dead) {x' : Timer} (hx' : s'.findTimer t = some x') : x'.Dead := by
  cases step_timersOf hs with
  | same _ e => rw [findTimer_of_timers_eq e] at hx'; exact h x' hx'
  | kill _ e => exact allDead_killTimers s x' (e ▸ (findTimer_mem hx').1)
  | reg t0 k d hr _ e =>
    -- the new timer goes to the end of the table and carries another id: the first match is an old one
    have hne : (t0 == t) = false := by simpa using fun he : t0 = t => hl k d (he ▸ hr)
    unfold findTimer at h hx'
    rw [e, List.find?_append, List.find?_cons, hne, List.find?_nil, Option.or_none] at hx'
    exact h x' hx'
  | task t0 y st hy ht e =>
    rw [findTimer_of_timers_eq e] at hx'
    by_cases hte : t = t0
    · subst hte
      rw [findTimer_setTimer_eq hy] at hx'; cases hx'; exact .inr (.inr (ht.of_dead (h y hy)))
    · rw [findTimer_setTimer_ne hte] at hx'; exact h x' hx'

theorem allDead_of_terminates {w : Wiring} {s s' : AState} {l : Label} (hs : step w s l = some s')
    (hl : l.terminates = true) : AllDead s' := by
  have hloop : l.isLoop = true := by cases l <;> first | rfl | cases hl
  cases step_loop hs hloop <;> first | (cases hl; done) | exact allDead_fail _ | exact allDead_finish _

theorem not_done_of_begin {w : Wiring} {s s' : AState} {l : Label} (hs : step w s l = some s')
    (hl : (∃ cb, l = .cbBegin cb) ∨ ∃ t m, l = .tickBegin t m) : s.isDone = false := by
  rcases hl with ⟨cb, rfl⟩ | ⟨t, m, rfl⟩
  · cases step_loop hs rfl <;> simp [isDone, *]
  · obtain ⟨tok, rest, hp, -, -⟩ := stepTickBegin_cases hs
    simp [isDone, hp]

theorem allDead_done_step (w : Wiring) {s s' : AState} {l : Label} (hi : s.isDone = true → AllDead s)
    (hs : step w s l = some s') : s'.isDone = true → AllDead s' := by
  obtain ⟨hd1, hd2⟩ := step_isDone w hs
  intro hdn
  cases ht : l.terminates
  · rw [hd2 ht] at hdn
    refine allDead_step hs (hi hdn) ?_
    -- a timer is registered from inside a callback
    rintro t k d rfl
    obtain ⟨hcb, -, -⟩ := stepCtxTimer_cases hs
    rw [inCallback_not_done hcb] at hdn; cases hdn
  · exact allDead_of_terminates hs ht

end Hannibal
