import Hannibal.Proofs.C05Dead
import Hannibal.Proofs.C07OMon
import Hannibal.Proofs.Timers
import Hannibal.Proofs.Latch
import Hannibal.Props.C03
/-
  C07 (ignored restart, timers): a non-restartable plain actor never goes through `refresh`, so its
  repeating timers are only ever ended by the end of the actor (quiet) or because their weak sender no
  longer upgrades — and that happens only once nobody owns the channel closures, for good.
-/
namespace Hannibal
open AState

def repeating (k : TimerKind) : Bool :=
  match k with
  | .interval | .intervalWith => true
  | _ => false

structure Tim07 (c : MonCtx) (s : AState) (σ : C07oSt) : Prop where
  h : HInv s σ.hold
  rx : RxInv s
  done : s.isDone = true → σ.quiet = true
  kinds : restartable c = false → σ.quiet = false →
    ∀ t k, lookup t σ.timers = some k → ∀ x, s.findTimer t = some x → x.kind = k
  dead : restartable c = false → σ.quiet = false →
    ∀ t x, s.findTimer t = some x → repeating x.kind = true → x.Dead → NoHolder s

theorem tim07_init (c : MonCtx) : Tim07 c (AState.init c.cfg c.h0 c.k0) (monC07o c).init :=
  ⟨⟨rfl, nofun⟩, rxInv_init _ _ _, nofun, (fun _ _ _ _ h => nomatch h), fun _ _ _ _ h => (nomatch h)⟩

theorem find_setTimer {s : AState} {t0 t : Nat} {x0 x' : Timer} {st : TimerSt} (h0 : s.findTimer t0 = some x0)
    (hx' : (s.setTimer t0 st).findTimer t = some x') :
    (t = t0 ∧ x' = { x0 with st := st }) ∨ s.findTimer t = some x' := by
  by_cases hte : t = t0
  · subst hte
    rw [findTimer_setTimer_eq h0] at hx'
    exact .inl ⟨rfl, (Option.some.inj hx').symm⟩
  · rw [findTimer_setTimer_ne hte] at hx'
    exact .inr hx'

def TimerKept (w : Wiring) (s : AState) (t : Nat) (x' : Timer) : Prop :=
  ∃ x, s.findTimer t = some x ∧ x.kind = x'.kind ∧
    (x'.Dead → x.Dead ∨ (s.reqOk w (w.upgradeReq .weakSender) && s.chan.rx) = false ∨ repeating x.kind = false)

theorem TimerKept.same {w : Wiring} {s : AState} {t : Nat} {x' : Timer} (h : s.findTimer t = some x') :
    TimerKept w s t x' := ⟨x', h, rfl, .inl⟩

theorem timer_step {w : Wiring} {s s' : AState} {l : Label} (hs : step w s l = some s')
    (hnt : l.terminates = false) (hnr : s.phase ≠ .rstStopping) {t : Nat} {x' : Timer}
    (hx' : s'.findTimer t = some x') :
    (∃ d, l = .ctxTimer t x'.kind d ∧ x'.st = .spawned) ∨ TimerKept w s t x' := by
  cases step_timersOf hs with
  | same _ e => rw [findTimer_of_timers_eq e] at hx'; exact .inr (.same hx')
  | kill hl =>
    rcases hl with hl | ⟨-, hp⟩
    · rw [hnt] at hl; cases hl
    · exact absurd hp hnr
  | reg t0 k d hr _ e =>
    unfold TimerKept findTimer at *
    rw [e, List.find?_append] at hx'
    cases hf : s.timers.find? (fun y => y.id == t) with
    | some y => rw [hf] at hx'; cases hx'; exact .inr ⟨_, rfl, rfl, .inl⟩
    | none =>
      rw [hf] at hx'
      simp only [Option.none_or, List.find?_cons, List.find?_nil] at hx'
      split at hx'
      · rename_i he
        cases hx'
        exact .inl ⟨d, by rw [hr, eq_of_beq he], rfl⟩
      · cases hx'
  | task t0 x0 st h0 ht e =>
    rw [findTimer_of_timers_eq e] at hx'
    rcases find_setTimer h0 hx' with ⟨rfl, rfl⟩ | h
    · refine .inr ⟨x0, h0, rfl, fun hd => ?_⟩
      cases ht with
      | exec _ _ _ hk => exact .inr (.inr (by rw [hk]; rfl))
      | sendFail _ _ _ _ _ hr => exact .inr (.inl hr)
      | ended hc =>
        rcases hc with hc | hc | ⟨due, -, -, -, hreq⟩ | ⟨-, hk, -⟩
        · exact .inl (.inl hc)
        · exact .inl (.inr (.inl hc))
        · exact .inr (.inl hreq)
        · exact .inr (.inr (by rw [hk]; rfl))
      | _ => simp [Timer.Dead] at hd
    · exact .inr (.same h)

theorem next07o_quiet_false {σ : C07oSt} {l : Label} (h : (next07o σ l).quiet = false) :
    σ.quiet = false ∧ l.terminates = false := by
  have h : (quiet07 l || σ.quiet) = false := h
  rw [Bool.or_eq_false_iff] at h
  refine ⟨h.2, ?_⟩
  cases ht : l.terminates
  · rfl
  · rw [← h.1]; cases l <;> first | rfl | cases ht

theorem tim07_step (w : Wiring) (hw : WellWired05 w) (c : MonCtx) {s s' : AState} {σ : C07oSt} {l : Label}
    (hcfg : s.cfg = c.cfg) (hrst : RstOk s) (hi : Tim07 c s σ) (hs : step w s l = some s') :
    badIgn c σ l = false ∧ Tim07 c s' (next07o σ l) := by
  have hheld : σ.hold.strongHeld = s.handles.any (fun p => p.2.strong) := by
    unfold HoldSt.strongHeld; rw [hi.h.handles]
  have hrxq : σ.quiet = false → s.chan.rx = true := fun hq =>
    hi.rx.resolve_left fun h => by rw [hi.done h] at hq; cases hq
  have hnorst : restartable c = false → s.phase ≠ .rstStopping := by
    intro hr hp
    have := hrst (.inr (.inl hp))
    rw [hcfg] at this
    simp [restartable, this.1, this.2] at hr
  refine ⟨?_, hinv_step hi.h hs, rxInv_step hs hi.rx, fun hd => ?_, fun hr hq t k hlk x' hx' => ?_,
    fun hr hq t x' hx' hrep hd => ?_⟩
  · -- (ii) never fires: a repeating timer that ends was aborted or could not upgrade, so nobody holds a
    -- strong handle
    cases l <;> try exact Bool.and_false _
    rename_i t
    cases hb : badIgn c σ (.timerEnd t)
    · rfl
    simp only [badIgn, Bool.and_eq_true, Bool.not_eq_true', decide_eq_true_eq] at hb
    obtain ⟨⟨⟨⟨⟨⟨hr, -⟩, -⟩, hq⟩, -⟩, hh⟩, hk⟩ := hb
    rw [hheld] at hh
    obtain ⟨x, hx, -, hc⟩ := stepTimerEnd_cases hs
    have hrep : repeating x.kind = true := by
      cases hlk : lookup t σ.timers with
      | none => rw [hlk] at hk; cases hk
      | some k =>
        rw [hi.kinds hr hq t k hlk x hx]
        rw [hlk] at hk
        cases k <;> first | rfl | cases hk
    have hdead : x.Dead → False := fun hd => by
      rw [(hi.dead hr hq t x hx hrep hd).not_strong] at hh; cases hh
    rcases hc with hc | hc | ⟨due, -, -, -, hreq⟩ | ⟨-, hk, -⟩
    · exact (hdead (.inl hc)).elim
    · exact (hdead (.inr (.inl hc))).elim
    · rw [reqOk_of_strong hw.w15 hh, hrxq hq] at hreq; cases hreq
    · rw [hk] at hrep; cases hrep
  · show (quiet07 l || σ.quiet) = true
    obtain ⟨hd1, hd2⟩ := step_isDone w hs
    cases ht : l.terminates
    · rw [hi.done (hd2 ht ▸ hd), Bool.or_true]
    · have : quiet07 l = true := by cases l <;> first | rfl | cases ht
      rw [this]; rfl
  · obtain ⟨hq0, hnt⟩ := next07o_quiet_false hq
    rcases timer_step hs hnt (hnorst hr) hx' with ⟨d, rfl, -⟩ | ⟨x, hx, hk, -⟩
    · exact (Option.some.inj (lookup_cons_eq.symm.trans hlk))
    · rw [← hk]
      refine hi.kinds hr hq0 t k ?_ x hx
      -- a registration under `t` would find no timer there
      cases l <;> try exact hlk
      rename_i t0 k0 d
      by_cases hte : t0 = t
      · subst hte
        have := (stepCtxTimer_cases hs).2.1
        rw [List.any_eq_false] at this
        have := this x (findTimer_mem hx).1
        simp [(findTimer_mem hx).2] at this
      · rwa [show (next07o σ (.ctxTimer t0 k0 d)).timers = (t0, k0) :: σ.timers from rfl, lookup_cons_ne hte] at hlk
  · obtain ⟨hq0, hnt⟩ := next07o_quiet_false hq
    rcases timer_step hs hnt (hnorst hr) hx' with ⟨d, -, hsp⟩ | ⟨x, hx, hk, hc⟩
    · simp [Timer.Dead, hsp] at hd
    · rcases hc hd with hc | hc | hc
      · exact noHolder_step hw (hi.dead hr hq0 t x hx (hk ▸ hrep) hc) hs
      · rw [hrxq hq0, Bool.and_true] at hc
        exact noHolder_step hw (noHolder_of_reqFail hw hc) hs
      · rw [hk, hrep] at hc; cases hc

end Hannibal
