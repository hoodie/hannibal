import Hannibal.Proofs.C12
/-
  C12, model facts: a send that `begin` leaves pending has its entry in the mailbox.
-/
namespace Hannibal
open AState

theorem plan_send {w hk o k m} (hk' : isSendKind k = some m) (hw : WellWired12 w) :
    (plan w hk o k).pl = some (.msg m none) ∧ (plan w hk o k).path = .waiting := by
  have hp : sendPath w hk = .waiting := by
    unfold sendPath; split <;> simp [hw.1, hw.2]
  cases k <;> simp [isSendKind] at hk' <;> subst hk' <;> simp [plan, hp]

/-- a send that `begin` leaves `pending` was submitted on the waiting path, so its entry carries its token -/
theorem BeginOut.send_entry {w s s' o h k st m} (hout : BeginOut w s s' o h k st) (hst : st = .pending)
    (hm : isSendKind k = some m) (hw : WellWired12 w) :
    ∃ e ∈ s'.chan.queue, e.tok = .op o ∧ e.pl = .msg m none := by
  cases hout with
  | refused e hst' => rw [hst] at hst'; cases hst'
  | wait hpl => cases k <;> first | (cases hm; done) | cases hpl
  | sent pl tok hpl _ hc _ htok =>
    obtain ⟨hk, -, rfl⟩ := htok
    obtain ⟨h1, h2⟩ := plan_send (hk := hk) (o := o) hm hw
    obtain rfl := Option.some.inj (hpl.symm.trans ((plan_pl_eq w hk o k).symm.trans h1))
    exact ⟨_, by rw [hc, Chan.enq_queue]; exact List.mem_append_right _ (List.mem_singleton_self _), by simp [h2], rfl⟩

end Hannibal
