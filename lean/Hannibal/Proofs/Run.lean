import Hannibal.Monitor.Basic
/- Lifting a one-step simulation between model and monitor to whole runs. -/
namespace Hannibal

/-- `rn` runs the partial step function `st` along a list of labels.  `run`, `grun`, `drun`, `prun`, `srun` and the
    runs of monitors are all of this form. -/
structure Folds {α Λ : Type} (st : α → Λ → Option α) (rn : α → List Λ → Option α) : Prop where
  nil : ∀ a, rn a [] = some a
  cons : ∀ a l ls, rn a (l :: ls) = match st a l with | some a' => rn a' ls | none => none

theorem run_folds (w : Wiring) : Folds (step w) (run w) :=
  ⟨fun _ => rfl, fun s l _ => by rw [run]; cases step w s l <;> rfl⟩
theorem Mon.run_folds {σ : Type} (m : Mon σ) : Folds m.step m.run := ⟨fun _ => rfl, fun _ _ _ => rfl⟩
theorem Folds.unit {Λ : Type} : Folds (fun (_ : Unit) (_ : Λ) => some ()) (fun _ _ => some ()) :=
  ⟨fun _ => rfl, fun _ _ _ => rfl⟩

/-- The one induction: a one-step simulation of `f` by `g` lifts to their runs.  A third automaton `h` (a
    well-formedness condition on the trace, such as "operation ids are fresh") runs alongside: the simulation need
    only hold at labels `h` accepts, and the relation may mention `h`'s state. -/
theorem Folds.sim_wf {α β γ Λ : Type} {f F g G h H} (hF : @Folds α Λ f F) (hG : @Folds β Λ g G) (hH : @Folds γ Λ h H)
    (R : α → β → γ → Prop)
    (hstep : ∀ a a' b c c' l, R a b c → f a l = some a' → h c l = some c' → ∃ b', g b l = some b' ∧ R a' b' c') :
    ∀ ls a a' b c c', R a b c → F a ls = some a' → H c ls = some c' → ∃ b', G b ls = some b' ∧ R a' b' c'
  | [], a, a', b, c, c', hr, ha, hc => by
    obtain rfl := Option.some.inj ((hF.nil a).symm.trans ha)
    obtain rfl := Option.some.inj ((hH.nil c).symm.trans hc)
    exact ⟨b, hG.nil b, hr⟩
  | l :: ls, a, a', b, c, c', hr, ha, hc => by
    rw [hF.cons] at ha
    rw [hH.cons] at hc
    cases hf : f a l with
    | none => rw [hf] at ha; cases ha
    | some a1 =>
      cases hh : h c l with
      | none => rw [hh] at hc; cases hc
      | some c1 =>
        rw [hf] at ha
        rw [hh] at hc
        obtain ⟨b1, hg, hr1⟩ := hstep a a1 b c c1 l hr hf hh
        obtain ⟨b', hb', hr'⟩ := sim_wf hF hG hH R hstep ls a1 a' b1 c1 c' hr1 ha hc
        exact ⟨b', by rw [hG.cons, hg]; exact hb', hr'⟩

theorem Folds.sim {α β Λ : Type} {f F g G} (hF : @Folds α Λ f F) (hG : @Folds β Λ g G) (R : α → β → Prop)
    (hstep : ∀ a a' b l, R a b → f a l = some a' → ∃ b', g b l = some b' ∧ R a' b')
    (ls : List Λ) (a a' : α) (b : β) (hr : R a b) (ha : F a ls = some a') : ∃ b', G b ls = some b' ∧ R a' b' :=
  hF.sim_wf hG .unit (fun a b _ => R a b) (fun a a' b _ _ l hr hf _ => hstep a a' b l hr hf) ls a a' b () () hr ha rfl

theorem Folds.ok_of_sim_wf {α σ τ : Type} {f F} (hF : @Folds α Label f F) (m : Mon σ) (wf : Mon τ)
    (R : α → σ → τ → Prop)
    (hstep : ∀ a a' st t t' l, R a st t → f a l = some a' → wf.step t l = some t' →
      ∃ st', m.step st l = some st' ∧ R a' st' t')
    (a0 : α) (hinit : R a0 m.init wf.init) (ls : List Label) (a : α) (hr : F a0 ls = some a)
    (hwf : wf.ok ls = true) : m.ok ls = true := by
  obtain ⟨t', ht⟩ := Option.isSome_iff_exists.mp hwf
  obtain ⟨st', hm, -⟩ := hF.sim_wf m.run_folds wf.run_folds R hstep ls a0 a _ _ t' hinit hr ht
  exact Option.isSome_iff_exists.mpr ⟨st', hm⟩

theorem run_lift {σ : Type} (m : Mon σ) (w : Wiring) (Inv : AState → σ → Prop)
    (hstep : ∀ s s' st l, Inv s st → step w s l = some s' → ∃ st', m.step st l = some st' ∧ Inv s' st') :
    ∀ (ls : List Label) (s s' : AState) (st : σ), Inv s st → run w s ls = some s' →
      ∃ st', m.run st ls = some st' ∧ Inv s' st' :=
  (run_folds w).sim m.run_folds Inv hstep

theorem ok_of_run_lift {σ : Type} (m : Mon σ) (w : Wiring) (Inv : AState → σ → Prop)
    (hstep : ∀ s s' st l, Inv s st → step w s l = some s' → ∃ st', m.step st l = some st' ∧ Inv s' st')
    (s0 : AState) (hinit : Inv s0 m.init) (ls : List Label) (s : AState) (hr : run w s0 ls = some s) :
    m.ok ls = true := by
  unfold Mon.ok
  obtain ⟨st', hm, _⟩ := run_lift m w Inv hstep ls s0 s m.init hinit hr
  simp [hm]

/-- The invariant has a third argument, the state of a second automaton `wf` running alongside (such as `monC02wf c`,
    `monWf01`); put any ghost state under an `∃` inside it. -/
theorem ok_of_run_lift_wf {σ τ : Type} (m : Mon σ) (wf : Mon τ) (w : Wiring) (Inv : AState → σ → τ → Prop)
    (hstep : ∀ s s' st t t' l, Inv s st t → step w s l = some s' → wf.step t l = some t' →
      ∃ st', m.step st l = some st' ∧ Inv s' st' t')
    (s0 : AState) (hinit : Inv s0 m.init wf.init) (ls : List Label) (s : AState) (hr : run w s0 ls = some s)
    (hwf : wf.ok ls = true) : m.ok ls = true :=
  (run_folds w).ok_of_sim_wf m wf Inv hstep s0 hinit ls s hr hwf

end Hannibal
