import Hannibal.Proofs.Step
import Hannibal.Monitor.Basic
/-
  Termination latch and doneness: the latch leaves `pending` exactly when the
  loop task ends (given that the source notifies after `stopped()`).
-/
namespace Hannibal
open AState

def DoneInv (s : AState) : Prop := (s.latch ≠ .pending ↔ s.isDone = true)

theorem openCb_not_done {s : AState} {cb : Cb} (h : s.openCb = some cb) : s.isDone = false := by
  unfold openCb at h; unfold isDone
  cases hp : s.phase <;> simp_all

/-- doneness alone (no wiring hypothesis): the loop task ends exactly at the executor-level
    termination events -/
theorem step_isDone (w : Wiring) {s s' : AState} {l : Label} (hs : step w s l = some s') :
    (l.terminates = true → s'.isDone = true) ∧ (l.terminates = false → s'.isDone = s.isDone) := by
  cases hl : l.isLoop
  · have ht : l.terminates = false := by cases l <;> first | rfl | cases hl
    simp [ht, isDone, step_phase hs hl]
  · cases step_loop hs hl
    case panic cb ho => exact ⟨fun h => Bool.noConfusion h, fun _ => (openCb_not_done ho).symm⟩
    all_goals simp_all [Label.terminates, isDone]

theorem step_done (w : Wiring) (hw : w.notifyAfterStopped = true) {s s' : AState} {l : Label}
    (hs : step w s l = some s') :
    (l.terminates = true → s'.isDone = true ∧ s'.latch ≠ .pending) ∧
    (l.terminates = false → s'.isDone = s.isDone ∧ s'.latch = s.latch) := by
  obtain ⟨h1, h2⟩ := step_isDone w hs
  refine ⟨fun ht => ⟨h1 ht, ?_⟩, fun ht => ⟨h2 ht, ?_⟩⟩
  · have hl : l.isLoop = true := by cases l <;> first | rfl | cases ht
    cases step_loop hs hl <;> first | (cases ht; done) | (cases hl : s.latch <;> simp [fail, finish, cancelSlots, killTimers, hl])
  · cases hl : l.isLoop
    · exact step_latch hs hl
    · cases step_loop hs hl <;> first | (cases ht; done) | rfl | simp [notifyEarly, hw]

theorem inCallback_not_done {s : AState} (h : s.inCallback = true) : s.isDone = false := by
  unfold inCallback at h; unfold isDone
  cases hp : s.phase <;> simp_all

theorem doneInv_init (cfg : Cfg) (h0 : Nat) (k0 : HKind) : DoneInv (AState.init cfg h0 k0) := by
  simp [DoneInv, AState.init, isDone]

theorem doneInv_step (w : Wiring) (hw : w.notifyAfterStopped = true) {s s' : AState} {l : Label}
    (hs : step w s l = some s') (hi : DoneInv s) : DoneInv s' := by
  obtain ⟨h1, h2⟩ := step_done w hw hs
  unfold DoneInv at *
  cases ht : l.terminates
  · obtain ⟨ha, hb⟩ := h2 ht; rw [ha, hb]; exact hi
  · obtain ⟨ha, hb⟩ := h1 ht; simp [ha, hb]

end Hannibal
