import Hannibal.Model.Chan
/-
  Chan-level invariant behind C12: the parked-token list is exactly the token
  list of the queue entries beyond the buffer.  Holds for every `cap`
  (unbounded, bounded n for all n — 0 included), every interleaving of waiting
  and forcing submissions and dequeues.
-/
namespace Hannibal
namespace Chan

def WF (c : Chan) : Prop :=
  match c.cap with
  | none => c.parked = []
  | some n => c.parked = (c.queue.drop n).map (·.tok)

@[simp] theorem enq_queue (c : Chan) (e : Entry) : (c.enq e).queue = c.queue ++ [e] := by
  unfold enq; split
  · rfl
  · split <;> rfl

@[simp] theorem enq_cap (c : Chan) (e : Entry) : (c.enq e).cap = c.cap := by
  unfold enq; split
  · rfl
  · split <;> rfl

@[simp] theorem enq_rx (c : Chan) (e : Entry) : (c.enq e).rx = c.rx := by
  unfold enq; split
  · rfl
  · split <;> rfl

theorem wf_init (cap : Option Nat) : (Chan.init cap).WF := by
  unfold WF init
  cases cap <;> simp

theorem wf_enq (c : Chan) (e : Entry) (h : c.WF) : (c.enq e).WF := by
  unfold WF enq at *
  cases hc : c.cap with
  | none => simp_all
  | some n =>
    simp only [hc] at h ⊢
    by_cases hl : c.queue.length + 1 > n
    · have hle : n ≤ c.queue.length := by omega
      simp [hl, h, List.drop_append_of_le_length hle]
    · have h1 : (c.queue ++ [e]).drop n = [] := List.drop_eq_nil_of_le (by simp; omega)
      have h2 : c.queue.drop n = [] := List.drop_eq_nil_of_le (by omega)
      simp [hl, h, h1, h2]

theorem wf_deq (c : Chan) (h : c.WF) : c.deq.WF := by
  unfold WF deq at *
  cases hc : c.cap with
  | none => simp_all
  | some n =>
    simp only [hc] at h ⊢
    rw [h]
    cases hq : c.queue with
    | nil => simp
    | cons x xs =>
      cases n with
      | zero => simp
      | succ k => simp [List.drop_succ_cons, ← List.map_tail, List.tail_drop]

theorem wf_dropRx (c : Chan) : c.dropRx.WF := by
  unfold WF dropRx
  cases c.cap <;> simp

/-- Replacing the payload of the head entry (a tick gets its message id) keeps tokens. -/
theorem wf_rename (c : Chan) (pl pl' : Payload) (tok : Tok) (rest : List Entry)
    (hq : c.queue = { pl, tok } :: rest) (h : c.WF) :
    ({ c with queue := { pl := pl', tok } :: rest } : Chan).WF := by
  unfold WF at *
  cases hc : c.cap with
  | none => simp_all
  | some n =>
    simp only [hc] at h ⊢
    rw [h, hq]
    cases n <;> simp

theorem mem_take_of_not_parked (c : Chan) (n : Nat) (hc : c.cap = some n) (h : c.WF)
    (e : Entry) (he : e ∈ c.queue) (hp : c.isParked e.tok = false) : e ∈ c.queue.take n := by
  unfold WF at h
  simp only [hc] at h
  have hsplit : e ∈ c.queue.take n ++ c.queue.drop n := by simpa using he
  rcases List.mem_append.mp hsplit with h1 | h2
  · exact h1
  · exfalso
    have : e.tok ∈ c.parked := by rw [h]; exact List.mem_map_of_mem h2
    simp [isParked] at hp
    exact hp this

end Chan
end Hannibal
