import Hannibal.Proofs.C05Phase
import Hannibal.Proofs.C02Wait
import Hannibal.Proofs.C03Q
/-
  C05 (2), model only: how the loop is left for good, which ways out are failures, and what a
  step does to the user messages waiting in the mailbox.
-/
namespace Hannibal
open AState

theorem enter_pastLoop {w : Wiring} {s s' : AState} {l : Label} (hs : step w s l = some s')
    (hl : l.isTau = false) (h0 : pastLoop s.phase = false) (h1 : pastLoop s'.phase = true) :
    failing s'.phase = true := by
  cases hl' : l.isLoop
  · rw [step_phase hs hl', h0] at h1; cases h1
  · cases step_loop hs hl' <;> simp_all [pastLoop, failing, Label.isTau]

def inQ (s : AState) (m : Nat) : Prop := ∃ e ∈ s.chan.queue, ∃ sl, e.pl = .msg m sl

theorem inQ_new {s s' : AState} {m : Nat} {sl : Option Nat} {tok : Tok}
    (h : s'.chan = s.chan.enq { pl := .msg m sl, tok }) : inQ s' m :=
  ⟨{ pl := .msg m sl, tok }, by rw [h]; simp, sl, rfl⟩

theorem inQ_step {w : Wiring} {s s' : AState} {l : Label} {m : Nat} (hs : step w s l = some s')
    (hq : inQ s m) : inQ s' m ∨ l = .cbBegin (.handle m) ∨ l.terminates = true := by
  obtain ⟨e, he, sl, hpl⟩ := hq
  have keep : (∀ x ∈ s.chan.queue, (∀ sl, x.pl ≠ .msg m sl) ∨ x ∈ s'.chan.queue) → inQ s' m := fun h =>
    ⟨e, (h e he).resolve_left (fun h => h sl hpl), sl, hpl⟩
  -- the head is taken out, or gets another payload: the others stay
  have head : ∀ {x rest}, s.chan.queue = x :: rest → (∀ sl, x.pl ≠ .msg m sl) →
      (∀ y ∈ rest, y ∈ s'.chan.queue) → inQ s' m := by
    intro x rest hq hx h'
    refine keep (fun y hy => ?_)
    rw [hq] at hy
    rcases List.mem_cons.mp hy with rfl | hy
    · exact .inl hx
    · exact .inr (h' y hy)
  cases step_chanOf hs with
  | same _ h => exact .inl (keep fun x hx => .inr (h ▸ hx))
  | enq pl tok t _ _ _ h => exact .inl (keep fun x hx => .inr (by rw [h]; simp [hx]))
  | deq pl tok rest hl hq _ h =>
    have hrest : ∀ y ∈ rest, y ∈ s'.chan.queue := fun y hy => by rw [h, Chan.deq, hq]; exact hy
    cases hl with
    | handle m' slot =>
      by_cases hm : m' = m
      · exact .inr (.inl (hm ▸ rfl))
      · exact .inl (head hq (fun sl h => hm (Payload.msg.inj h).1) hrest)
    | _ => exact .inl (head hq nofun hrest)
  | bind pl m' tok rest hl hq h =>
    exact .inl (head hq (by cases hl <;> exact nofun) (fun y hy => by rw [h]; exact List.mem_cons_of_mem _ hy))
  | drop hl => exact .inr (.inr hl)

end Hannibal
