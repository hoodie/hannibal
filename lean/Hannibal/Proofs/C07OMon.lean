import Hannibal.Monitor.C07
/- `monC07o` in guard / update form. -/
namespace Hannibal

def restartable (c : MonCtx) : Bool := !c.cfg.stream && c.cfg.strat != .non

def quiet07 : Label → Bool
  | .stopReq _ _ | .ctxStop _ | .cbBegin .stopped | .begin _ _ .halt | .begin _ _ .tryHalt
  | .begin _ _ .consume => true
  | l => l.terminates

/-- (ii): a non-restartable plain actor that ignored a restart request keeps its repeating timers -/
def badIgn (c : MonCtx) (σ : C07oSt) (l : Label) : Bool :=
  !restartable c && !c.cfg.stream && decide (σ.accepted > 0) && !σ.quiet && !σ.failure
    && σ.hold.strongHeld && (match l with
      | .timerEnd t => (match lookup t σ.timers with
          | some .interval | some .intervalWith => true
          | _ => false)
      | _ => false)

/-- (i): the handler of a message submitted after `n` accepted restart requests runs in incarnation `n + 1`
    (in incarnation 1 if the spawn is not restartable); none runs after a failure -/
def badOrd (c : MonCtx) (σ : C07oSt) : Label → Bool
  | .cbBegin (.handle m) =>
    σ.failure || (match lookup m σ.expect with
      | some n => if restartable c then !(σ.inc == n + 1) else !(σ.inc == 1)
      | none => false)
  | _ => false

/-- the flags are written `label || old` so that they compute once the label is known -/
def next07o (σ : C07oSt) (l : Label) : C07oSt :=
  { inc := (match l with | .cbBegin .started => σ.inc + 1 | _ => σ.inc)
    accepted := (match l with | .restartReq _ true | .ctxRestart true => σ.accepted + 1 | _ => σ.accepted)
    expect := (match l with
      | .begin _ _ k => (match k.msg? with | some m => (m, σ.accepted) :: σ.expect | none => σ.expect)
      | _ => σ.expect)
    failure := l.isFailure || σ.failure
    hold := σ.hold.step l
    quiet := quiet07 l || σ.quiet
    timers := (match l with | .ctxTimer t k _ => (t, k) :: σ.timers | _ => σ.timers) }

theorem mon07o_eq (c : MonCtx) (σ : C07oSt) (l : Label) :
    (monC07o c).step σ l =
      if badIgn c σ l then none else if badOrd c σ l then none else some (next07o σ l) := by
  cases l
  case cbBegin cb =>
    cases cb <;> try rfl
    rename_i m
    have h : (monC07o c).step σ (.cbBegin (.handle m)) =
        if badIgn c σ (.cbBegin (.handle m)) then none else if σ.failure then none else
          match lookup m σ.expect with
          | some n =>
            if restartable c then (if σ.inc == n + 1 then some (next07o σ (.cbBegin (.handle m))) else none)
            else (if σ.inc == 1 then some (next07o σ (.cbBegin (.handle m))) else none)
          | none => some (next07o σ (.cbBegin (.handle m))) := rfl
    rw [h, badOrd]
    cases σ.failure
    · cases lookup m σ.expect
      · rfl
      · cases restartable c <;> simp
    · rfl
  case cbEnd cb ok => cases cb <;> cases ok <;> rfl
  case begin o h k => cases k <;> rfl
  case restartReq h ok => cases ok <;> rfl
  case ctxRestart ok => cases ok <;> rfl
  all_goals rfl

end Hannibal
