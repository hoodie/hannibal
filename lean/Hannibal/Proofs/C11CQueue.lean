import Hannibal.Monitor.C11C
import Hannibal.Proofs.C01Spec
/-
  Model facts behind C11c: the user messages waiting in the mailbox together with their reply slots;
  every step keeps them, drops some, or adds one freshly named message (whose slot, for a call, is the
  submitting operation).
-/
namespace Hannibal
open AState

def msgSlot11c : Payload → Option (Nat × Option Nat)
  | .msg m slot => some (m, slot)
  | _ => none

/-- (message, reply slot) of the user messages waiting in the mailbox, oldest first -/
def qms11c (c : Chan) : List (Nat × Option Nat) := c.queue.filterMap (fun e => msgSlot11c e.pl)

theorem callMsg11c_msg {k : OpKind} {m : Nat} (h : callMsg11c k = some m) : k.msg? = some m := by
  cases k <;> simp_all [callMsg11c, OpKind.msg?]

theorem msgSlot11c_payloadOf {o : Nat} {k : OpKind} {x : Nat × Option Nat} (h : msgSlot11c (payloadOf o k) = some x) :
    k.msg? = some x.1 ∧ (callMsg11c k = some x.1 → x.2 = some o) := by
  cases k <;> simp [payloadOf, msgSlot11c] at h <;> subst h <;> simp [OpKind.msg?, callMsg11c]

theorem qms11c_deq_sub (c : Chan) {x} (hx : x ∈ qms11c c.deq) : x ∈ qms11c c := by
  obtain ⟨e, he, hx⟩ := List.mem_filterMap.mp hx
  exact List.mem_filterMap.mpr ⟨e, List.mem_of_mem_tail he, hx⟩

theorem mem_qms11c_rename {c : Chan} {pl tok rest m} {x : Nat × Option Nat} (hq : c.queue = { pl, tok } :: rest)
    (hx : x ∈ qms11c { c with queue := { pl := .msg m none, tok } :: rest }) : x ∈ qms11c c ∨ m = x.1 := by
  unfold qms11c at hx ⊢
  rw [hq]
  obtain ⟨e, he, hx⟩ := List.mem_filterMap.mp hx
  rcases List.mem_cons.mp he with rfl | he
  · obtain rfl : (m, none) = x := Option.some.inj hx
    exact .inr rfl
  · exact .inl (List.mem_filterMap.mpr ⟨e, List.mem_cons_of_mem _ he, hx⟩)

def New11c (l : Label) (x : Nat × Option Nat) : Prop :=
  match l with
  | .begin o _ k => k.msg? = some x.1 ∧ (callMsg11c k = some x.1 → x.2 = some o)
  | .fire _ mo => mo = some x.1
  | .tickBegin _ m => m = x.1
  | .extBegin _ m => m = x.1
  | _ => False

theorem step_qms11c {w s l s'} (hs : step w s l = some s') :
    ∀ x ∈ qms11c s'.chan, x ∈ qms11c s.chan ∨ New11c l x := by
  intro x hx
  cases step_chanOf hs with
  | same _ h => exact .inl (h ▸ hx)
  | enq pl tok t hl _ _ h =>
    unfold qms11c at hx
    rw [h, Chan.enq_queue, List.filterMap_append, List.mem_append] at hx
    refine hx.imp_right fun hx => ?_
    have hx : msgSlot11c pl = some x := by simpa using hx
    cases hl with
    | op o h' k _ hp => subst hp; exact msgSlot11c_payloadOf hx
    | fire t n => cases hx; rfl
    | _ => cases hx
  | deq pl tok rest _ _ _ h => exact .inl (qms11c_deq_sub _ (h ▸ hx))
  | bind pl m tok rest hl hq h => cases hl <;> exact mem_qms11c_rename hq (h ▸ hx)
  | drop _ h => rw [h] at hx; cases hx

end Hannibal
