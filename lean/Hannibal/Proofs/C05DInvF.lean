import Hannibal.Props.C01
import Hannibal.Proofs.Timers
import Hannibal.Proofs.C05DOrder
import Hannibal.Proofs.C05DRun
/-
  C05 (drain completeness for dropped calls): the coupling behind clause (f), with the coupling of `monC01`
  (`C01Inv`) as a ghost: it knows that the waiting messages are fresh, not handled yet, and that every recorded
  operation whose submission went through has its message handled or waiting.  No hypothesis on the wiring.
-/
namespace Hannibal
open AState

theorem next05d_handled (c : MonCtx) (σ : C05dSt) (l : Label) :
    (next05d c σ l).q.handled = handledNext σ.q.handled l := by
  cases l <;> first | rfl | (rename_i cb; cases cb <;> rfl)

theorem next05d_order_same (c : MonCtx) (σ : C05dSt) {l : Label} (h : ∀ o h k m, l = .begin o h k → k.msg? ≠ some m) :
    (next05d c σ l).order = σ.order := by
  cases l <;> try rfl
  rename_i o h0 k
  cases hk : k.msg? with
  | none => simp only [next05d, hk]
  | some m => exact absurd hk (h o h0 k m rfl)

theorem next05d_order_begin_some (c : MonCtx) (σ : C05dSt) {o h : Nat} {k : OpKind} {m : Nat} (hk : k.msg? = some m) :
    (next05d c σ (.begin o h k)).order = m :: σ.order := by
  simp only [next05d, hk]

theorem mem_dropped_next {c : MonCtx} {σ : C05dSt} {l : Label} {d : Nat} (h : d ∈ (next05d c σ l).dropped) :
    d ∈ σ.dropped ∨ ∃ o, l = .cdrop o ∧ lookup o σ.calls = some d := by
  cases l <;> first | exact .inl h | skip
  rename_i o
  simp only [next05d] at h
  split at h
  · next m hl =>
    rcases List.mem_cons.mp h with rfl | h
    · exact .inr ⟨o, rfl, hl⟩
    · exact .inl h
  · exact .inl h

theorem wfBad_begin05d {g : Wf01St} {o h : Nat} {k : OpKind} (hg : wfBad g (.begin o h k) = false) :
    o ∉ g.seenO ∧ ∀ m, k.msg? = some m → m ∉ g.seenM := by
  simp only [wfBad, Bool.or_eq_false_iff] at hg
  refine ⟨by simpa using hg.1, ?_⟩
  intro m hm
  rw [hm] at hg
  simpa using hg.2

/-- the call table of `monC05d` is the call part of the operation table of `monC01` -/
def callOf05d : Option (Nat × Bool) → Option Nat
  | some (m, true) => some m
  | _ => none

def CallsRel05d (calls : List (Nat × Nat)) (ops : List (Nat × (Nat × Bool))) : Prop :=
  ∀ o, lookup o calls = callOf05d (lookup o ops)

theorem callOf_opEntry05d {k : OpKind} {m : Nat} (h : callOf05d (opEntry k) = some m) :
    k.msg? = some m ∧ k.isCall = true := by
  cases k <;> simp [opEntry, OpKind.msg?, OpKind.isCall, callOf05d] at h ⊢ <;> exact h

theorem callsRel_step05d (c : MonCtx) {σ : C05dSt} {ops : List (Nat × (Nat × Bool))} {l : Label}
    (hr : CallsRel05d σ.calls ops) (hf : ∀ o h k, l = .begin o h k → lookup o ops = none) :
    CallsRel05d (next05d c σ l).calls (opsNext ops l) := by
  cases l
  case begin o h k =>
    have hno := hf o h k rfl
    have hnc : lookup o σ.calls = none := by rw [hr o, hno]; rfl
    intro o'
    by_cases he : o = o'
    · subst he
      cases k <;> simp [next05d, opsNext, OpKind.msg?, OpKind.isCall, lookup, callOf05d, hnc, hno]
    · have hne : (o == o') = false := by simpa using he
      cases k <;> simp [next05d, opsNext, OpKind.msg?, OpKind.isCall, lookup, hne] <;> exact hr o'
  all_goals exact hr

structure F05d (s : AState) (σ : C05dSt) (σ1 : C01St) (g : Wf01St) : Prop where
  i1 : C01Inv s σ1 g
  rxd : RxInv s
  hd : σ.q.handled = σ1.handled
  calls : CallsRel05d σ.calls σ1.ops
  oseen : ∀ m ∈ σ.order, m ∈ g.seenM
  onodup : σ.order.Nodup
  pw : (qmsgs s.chan).Pairwise (fun a b => before05d σ.order b a = false)
  hord : ∀ rec ∈ s.ops, ∀ m, rec.kind.msg? = some m → (∀ e, rec.st ≠ .failed e) → m ∉ σ.q.handled →
    ∀ h ∈ σ.q.handled, before05d σ.order m h = false
  dlive : ∀ d ∈ σ.dropped, Live s.chan σ.q.handled d

theorem f05d_init (c : MonCtx) :
    F05d (AState.init c.cfg c.h0 c.k0) (monC05d c).init (monC01 c).init monWf01.init := by
  refine ⟨c01_init c, rxInv_init _ _ _, rfl, ?_, ?_, ?_, ?_, ?_, ?_⟩
  · intro o; simp [monC05d, monC01, lookup, callOf05d]
  · intro m hm; simp [monC05d] at hm
  · simp [monC05d]
  · simp [AState.init, Chan.init, qmsgs]
  · intro rec hrec; simp [AState.init] at hrec
  · intro d hd; simp [monC05d] at hd

theorem cdrop_rec05d {s s' : AState} {o : Nat} (hs : stepCdrop s o = some s') (hok : s.cdropOk o = true) :
    ∃ rec ∈ s.ops, rec.o = o ∧ ∀ e, rec.st ≠ .failed e := by
  unfold stepCdrop at hs
  cases hf : s.findOp o with
  | none => simp [hf] at hs
  | some rec =>
    obtain ⟨hrec, hro⟩ := findOp_some_mem hf
    refine ⟨rec, hrec, hro, ?_⟩
    intro e he
    simp [cdropOk, hf, he] at hok

theorem cdrop_msg05d {s s' : AState} {σ : C05dSt} {σ1 : C01St} {g : Wf01St} {o m : Nat} (hi : F05d s σ σ1 g)
    (hs : stepCdrop s o = some s') (hok : s.cdropOk o = true) (hl : lookup o σ.calls = some m) :
    ∃ rec ∈ s.ops, rec.kind.msg? = some m ∧ rec.kind.isCall = true ∧ ∀ e, rec.st ≠ .failed e := by
  obtain ⟨rec, hrec, hro, hnf⟩ := cdrop_rec05d hs hok
  have htbl := hi.i1.ops.tbl rec hrec
  have := hi.calls o
  rw [hl, ← hro, htbl] at this
  obtain ⟨h1, h2⟩ := callOf_opEntry05d this.symm
  exact ⟨rec, hrec, h1, h2, hnf⟩

theorem oseen_step05d (c : MonCtx) {σ : C05dSt} {g : Wf01St} {l : Label} (hg : wfBad g l = false)
    (hi : ∀ m ∈ σ.order, m ∈ g.seenM) (hn : σ.order.Nodup) :
    (∀ m ∈ (next05d c σ l).order, m ∈ (wfNext g l).seenM) ∧ (next05d c σ l).order.Nodup := by
  by_cases hb : ∃ o h k m0, l = .begin o h k ∧ k.msg? = some m0
  · obtain ⟨o, h, k, m0, rfl, hk⟩ := hb
    rw [next05d_order_begin_some c σ hk]
    have hm0 := (wfBad_begin05d hg).2 m0 hk
    refine ⟨?_, List.nodup_cons.mpr ⟨fun hm => hm0 (hi m0 hm), hn⟩⟩
    intro m hm
    simp only [wfNext, hk]
    rcases List.mem_cons.mp hm with rfl | hm
    · simp
    · exact List.mem_cons_of_mem _ (hi m hm)
  · rw [next05d_order_same c σ (fun o h k m he hk => hb ⟨o, h, k, m, he, hk⟩)]
    exact ⟨fun m hm => wf_seenM_mono g _ m (hi m hm), hn⟩

theorem pw_step05d (cc : MonCtx) {l : Label} {c c' : Chan} {σ : C05dSt} {g : Wf01St} (hq : QRel l c c')
    (hg : wfBad g l = false) (hqs : ∀ m ∈ qmsgs c, m ∈ g.seenM) (hos : ∀ m ∈ σ.order, m ∈ g.seenM)
    (hpw : (qmsgs c).Pairwise (fun a b => before05d σ.order b a = false)) :
    (qmsgs c').Pairwise (fun a b => before05d (next05d cc σ l).order b a = false) := by
  cases l
  case begin o h k =>
    simp only [QRel] at hq
    cases hk : k.msg? with
    | none =>
      rw [next05d_order_same cc σ (fun _ _ _ m he hm => by cases he; rw [hk] at hm; cases hm)]
      rcases hq with ⟨hq1, _⟩ | ⟨m, hm, _⟩
      · rw [hq1]; exact hpw
      · rw [hk] at hm; cases hm
    | some m0 =>
      rw [next05d_order_begin_some cc σ hk]
      have hm0 := (wfBad_begin05d hg).2 m0 hk
      have hno : m0 ∉ σ.order := fun hm => hm0 (hos m0 hm)
      have hold : (qmsgs c).Pairwise (fun a b => before05d (m0 :: σ.order) b a = false) := by
        refine List.Pairwise.imp_of_mem ?_ hpw
        intro a b ha hb hab
        have hne : m0 ≠ a := fun he => hm0 (he ▸ hqs a ha)
        rw [before05d_cons_ne b hne]; exact hab
      rcases hq with ⟨hq1, _⟩ | ⟨m, hm, hq1, _, _⟩
      · rw [hq1]; exact hold
      · have hmm : m0 = m := by rw [hk] at hm; exact Option.some.inj hm
        subst hmm
        rw [hq1, List.pairwise_append]
        refine ⟨hold, List.pairwise_singleton _ _, ?_⟩
        intro a ha b hb
        have hb' : b = m0 := by simpa using hb
        rw [hb']
        have hne : m0 ≠ a := fun he => hm0 (he ▸ hqs a ha)
        rw [before05d_cons_ne m0 hne]
        exact before05d_not_mem a hno
  case fire t mo =>
    simp only [QRel] at hq
    rw [next05d_order_same cc σ (fun _ _ _ _ he => by cases he)]
    rcases hq with ⟨hq1, _⟩ | ⟨m, hm, hq1, _, _⟩
    · rw [hq1]; exact hpw
    · subst hm
      have hm0 : m ∉ g.seenM := by simpa [wfBad] using hg
      have hno : m ∉ σ.order := fun hm => hm0 (hos m hm)
      rw [hq1, List.pairwise_append]
      refine ⟨hpw, List.pairwise_singleton _ _, ?_⟩
      intro a ha b hb
      simp at hb; subst hb
      exact before05d_not_mem a hno
  case tickBegin t m =>
    simp only [QRel] at hq
    rw [next05d_order_same cc σ (fun _ _ _ _ he => by cases he)]
    have hm0 : m ∉ g.seenM := by simpa [wfBad] using hg
    have hno : m ∉ σ.order := fun hm => hm0 (hos m hm)
    rw [hq.1, List.pairwise_cons]
    exact ⟨fun b _ => before05d_not_mem' b hno, hpw⟩
  case extBegin t m =>
    simp only [QRel] at hq
    rw [next05d_order_same cc σ (fun _ _ _ _ he => by cases he)]
    have hm0 : m ∉ g.seenM := by simpa [wfBad] using hg
    have hno : m ∉ σ.order := fun hm => hm0 (hos m hm)
    rw [hq.1, List.pairwise_cons]
    exact ⟨fun b _ => before05d_not_mem' b hno, hpw⟩
  case cbBegin cb =>
    rw [next05d_order_same cc σ (fun _ _ _ _ he => by cases he)]
    cases cb <;> simp only [QRel] at hq
    case handle m =>
      rw [hq.1] at hpw
      exact (List.pairwise_cons.mp hpw).2
    all_goals (rw [hq.1]; exact hpw)
  case cancel => simp only [QRel] at hq; rw [hq.1]; exact List.Pairwise.nil
  case taskDone => simp only [QRel] at hq; rw [hq.1]; exact List.Pairwise.nil
  case taskPanic => simp only [QRel] at hq; rw [hq.1]; exact List.Pairwise.nil
  all_goals
    (simp only [QRel] at hq
     rw [next05d_order_same cc σ (fun _ _ _ _ he => by cases he), hq.1]; exact hpw)

theorem handle_before05d {w : Wiring} {s s' : AState} {σ : C05dSt} {σ1 : C01St} {g : Wf01St} {m' x : Nat}
    (hi : F05d s σ σ1 g) (hs : step w s (.cbBegin (.handle m')) = some s')
    (hl : Live s.chan σ.q.handled x) (hh : x ∉ σ.q.handled) : before05d σ.order x m' = false := by
  obtain ⟨hq, -⟩ : qmsgs s.chan = m' :: qmsgs s'.chan ∧ _ := step_q hs
  obtain ⟨-, -, -, -, -, hrx, -⟩ := (step_chanOf hs).takes (.handle m' none)
  rcases hl with h | h | h
  · exact absurd h hh
  · rw [hq] at h
    rcases List.mem_cons.mp h with rfl | h
    · exact before05d_self _ hi.onodup
    · exact (List.pairwise_cons.mp (hq ▸ hi.pw)).1 x h
  · rw [hrx] at h; cases h

/-- clause (f) at the begin of a handler -/
theorem handle_ok05d {w : Wiring} {s s' : AState} {σ : C05dSt} {σ1 : C01St} {g : Wf01St} {m' : Nat}
    (hi : F05d s σ σ1 g) (hs : step w s (.cbBegin (.handle m')) = some s') :
    skipped05d σ σ.dropped m' = false := by
  unfold skipped05d
  refine List.any_eq_false.mpr fun d hd => ?_
  by_cases hh : d ∈ σ.q.handled
  · simp [hh]
  · simp [handle_before05d hi hs (hi.dlive d hd) hh]

theorem hord_step05d {w : Wiring} (c : MonCtx) {s s' : AState} {σ : C05dSt} {σ1 : C01St} {g : Wf01St} {l : Label}
    (hi : F05d s σ σ1 g) (hs : step w s l = some s') (hg : wfBad g l = false) :
    ∀ rec ∈ s'.ops, ∀ m, rec.kind.msg? = some m → (∀ e, rec.st ≠ .failed e) → m ∉ (next05d c σ l).q.handled →
      ∀ h ∈ (next05d c σ l).q.handled, before05d (next05d c σ l).order m h = false := by
  have hseenh : ∀ h ∈ σ.q.handled, h ∈ g.seenM := fun h hh => hi.i1.qc.seenh h (hi.hd ▸ hh)
  intro rec hrec m hm hnf hnh h hh
  rw [next05d_handled] at hnh hh
  rcases step_op_mem hs hrec with ⟨rfl, -, -⟩ | ⟨r, hr, -, hk, -, hst, -, -⟩
  · -- submitted now, under a fresh number: before nothing
    have hm0 := (wfBad_begin05d hg).2 m hm
    rw [next05d_order_begin_some c σ hm, before05d_cons_ne m (fun he : m = h => hm0 (he ▸ hseenh h hh))]
    exact before05d_not_mem h (fun hm' => hm0 (hi.oseen m hm'))
  · have hnf0 : ∀ e, r.st ≠ .failed e := by
      rintro e he
      rcases hst with h | h
      · exact hnf e (h.trans he)
      · rw [he] at h; cases h
    rw [hk] at hm
    have hnh0 : m ∉ σ.q.handled := fun hx => hnh (handled_mono _ l m hx)
    -- `h` was handled before, or its handler begins now
    have hb : before05d σ.order m h = false := by
      rcases handledNext_cases hh with hh | rfl
      · exact hi.hord r hr m hm hnf0 hnh0 h hh
      · rcases hi.i1.live r hr m hm with ⟨e, he⟩ | hl
        · exact absurd he (hnf0 e)
        · exact handle_before05d hi hs (hi.hd ▸ hl) hnh0
    -- a message submitted now is fresh, hence not `h`
    by_cases hbeg : ∃ o h0 k m0, l = .begin o h0 k ∧ k.msg? = some m0
    · obtain ⟨o, h0, k, m0, rfl, hk0⟩ := hbeg
      rw [next05d_order_begin_some c σ hk0,
        before05d_cons_ne m (fun he : m0 = h => (wfBad_begin05d hg).2 m0 hk0 (he ▸ hseenh h hh))]
      exact hb
    · rw [next05d_order_same c σ (fun o h0 k m0 he hk0 => hbeg ⟨o, h0, k, m0, he, hk0⟩)]
      exact hb

theorem dlive_step05d {w : Wiring} (c : MonCtx) {s s' : AState} {σ : C05dSt} {σ1 : C01St} {g : Wf01St} {l : Label}
    (hi : F05d s σ σ1 g) (hs : step w s l = some s') (hok : ∀ o, l = .cdrop o → s.cdropOk o = true) :
    ∀ d ∈ (next05d c σ l).dropped, Live s'.chan (next05d c σ l).q.handled d := by
  intro d hd
  rw [next05d_handled]
  refine live_step (step_q hs) ?_
  rcases mem_dropped_next hd with hd | ⟨o, rfl, hl⟩
  · exact hi.dlive d hd
  · obtain ⟨rec, hrec, hm, _, hnf⟩ := cdrop_msg05d hi hs (hok o rfl) hl
    rcases hi.i1.live rec hrec d hm with ⟨e, he⟩ | h
    · exact absurd he (hnf e)
    · exact hi.hd ▸ h

/-- clause (f) when the future of a call is dropped -/
theorem cdrop_ok05d {s s' : AState} {σ : C05dSt} {σ1 : C01St} {g : Wf01St} {o : Nat}
    (hi : F05d s σ σ1 g) (hs : stepCdrop s o = some s') (hok : s.cdropOk o = true) :
    bad05df σ (.cdrop o) = false := by
  simp only [bad05df]
  cases hl : lookup o σ.calls with
  | none => rfl
  | some m =>
    simp only
    by_cases hh : m ∈ σ.q.handled
    · simp [hh]
    · obtain ⟨rec, hrec, hm, _, hnf⟩ := cdrop_msg05d hi hs hok hl
      have hall := hi.hord rec hrec m hm hnf hh
      have : (σ.q.handled.any fun m' => before05d σ.order m m') = false := by
        apply List.any_eq_false.mpr
        intro h hh'
        simp [hall h hh']
      simp [this]

theorem f05d_step (w : Wiring) (c : MonCtx) {s s' : AState} {σ : C05dSt} {σ1 : C01St} {g : Wf01St} {l : Label}
    (hi : F05d s σ σ1 g) (hs : step w s l = some s') (hg : wfBad g l = false)
    (hok : ∀ o, l = .cdrop o → s.cdropOk o = true) :
    bad05df σ l = false ∧ F05d s' (next05d c σ l) (next01 σ1 l) (wfNext g l) := by
  have hbad : bad05df σ l = false := by
    cases l <;> try rfl
    case cdrop o =>
      have hs0 := hs
      simp only [step] at hs0
      exact cdrop_ok05d hi hs0 (hok o rfl)
    case cbBegin cb =>
      cases cb <;> try rfl
      exact handle_ok05d hi hs
  obtain ⟨_, hi1⟩ := c01_step w hi.i1 hs hg
  obtain ⟨hos, hon⟩ := oseen_step05d c hg hi.oseen hi.onodup
  refine ⟨hbad, hi1, rxInv_step hs hi.rxd, ?_, ?_, hos, hon, ?_, hord_step05d c hi hs hg,
    dlive_step05d c hi hs hok⟩
  · rw [next05d_handled, hi.hd]; rfl
  · refine callsRel_step05d c hi.calls ?_
    intro o h k he
    subst he
    exact hi.i1.ops.fresh o (wfBad_begin05d hg).1
  · exact pw_step05d c (step_q hs) hg hi.i1.qc.seenq hi.oseen hi.pw

end Hannibal
