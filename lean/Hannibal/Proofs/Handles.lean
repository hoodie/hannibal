import Hannibal.Proofs.Ops
import Hannibal.Monitor.Handles
/-
  The monitor-side handle table (computed from trace events alone) is the
  model's handle table, and a strong handle keeps both closures alive.
-/
namespace Hannibal
open AState

/-- Every strong handle kind owns both halves of the channel. -/
def WellWired15 (w : Wiring) : Prop :=
  ∀ k : HKind, k.strong = true → (w.holds k).contains .tx = true ∧ (w.holds k).contains .force = true

def wellWired15b (w : Wiring) : Bool :=
  [HKind.addr, .owning, .sender, .caller].all
    (fun k => (w.holds k).contains .tx && (w.holds k).contains .force)

theorem wellWired15_iff (w : Wiring) : WellWired15 w ↔ wellWired15b w = true := by
  unfold WellWired15 wellWired15b
  constructor
  · intro h
    simp only [List.all_cons, List.all_nil, Bool.and_true, Bool.and_eq_true]
    exact ⟨h .addr rfl, h .owning rfl, h .sender rfl, h .caller rfl⟩
  · intro h k hk
    simp only [List.all_cons, List.all_nil, Bool.and_true, Bool.and_eq_true] at h
    cases k <;> simp [HKind.strong] at hk <;> simp_all

instance (w : Wiring) : Decidable (WellWired15 w) := decidable_of_iff _ (wellWired15_iff w).symm

structure HInv (s : AState) (σ : HoldSt) : Prop where
  handles : σ.handles = s.handles
  ops : ∀ r ∈ s.ops, lookup r.o σ.ops = some (r.kind, r.h)

theorem halfAlive_of_strong {w : Wiring} (hw : WellWired15 w) {s : AState}
    (h : s.handles.any (fun p => p.2.strong) = true) (x : Half) : s.halfAlive w x = true := by
  unfold halfAlive
  simp only [Bool.or_eq_true]
  refine .inl (.inl ?_)
  rw [List.any_eq_true] at h ⊢
  obtain ⟨p, hp, hs⟩ := h
  refine ⟨p, hp, ?_⟩
  have := hw p.2 hs
  cases x <;> simp
  · simpa using this.1
  · simpa using this.2

theorem reqOk_of_strong {w : Wiring} (hw : WellWired15 w) {s : AState}
    (h : s.handles.any (fun p => p.2.strong) = true) (req : List Half) : s.reqOk w req = true := by
  unfold reqOk
  rw [List.all_eq_true]
  intro x _
  exact halfAlive_of_strong hw h x

theorem lookup_cons_ne {α} {k k' : Nat} {v : α} {l : List (Nat × α)} (h : k' ≠ k) :
    lookup k ((k', v) :: l) = lookup k l := by
  simp [lookup, h]

theorem lookup_cons_eq {α} {k : Nat} {v : α} {l : List (Nat × α)} :
    lookup k ((k, v) :: l) = some v := by
  simp [lookup]

theorem kindOf_eq {s : AState} {σ : HoldSt} (h : σ.handles = s.handles) (x : Nat) :
    σ.kindOf x = s.handleKind x := by
  unfold HoldSt.kindOf handleKind; rw [h]

theorem holdStep_ops (σ : HoldSt) (l : Label) (h : l.isOpEdge = false) : (σ.step l).ops = σ.ops := by
  cases l <;> simp [Label.isOpEdge] at h <;> (try rfl)
  case upgrade hh h' =>
    cases h' with
    | none => rfl
    | some h2 => simp only [HoldSt.step]; split <;> rfl
  case ctxWeak k h' => cases h' <;> rfl

theorem holdStep_handles_same (σ : HoldSt) (l : Label) (h : l.touchesHandles = false) :
    (σ.step l).handles = σ.handles := by
  cases l <;> simp [Label.touchesHandles] at h <;> rfl

theorem release_handles {s : AState} {σ : HoldSt} (hi : HInv s σ) {o : Nat} {rec : OpRec}
    (hf : s.findOp o = some rec) :
    (σ.release o).handles = (if consumesHandle rec.kind then (s.removeHandle rec.h).handles else s.handles) := by
  obtain ⟨hrec, hro⟩ := findOp_some_mem hf
  have hl := hi.ops rec hrec
  rw [hro] at hl
  simp only [HoldSt.release, hl]
  cases rec.kind <;> simp [consumesHandle, HoldSt.remove, hi.handles, removeHandle]

theorem release_ops (σ : HoldSt) (o : Nat) : (σ.release o).ops = σ.ops := by
  unfold HoldSt.release; split <;> rfl

theorem hinv_step {w : Wiring} {s s' : AState} {σ : HoldSt} {l : Label}
    (hi : HInv s σ) (hs : step w s l = some s') : HInv s' (σ.step l) := by
  have hh := hi.handles
  cases hedge : l.isOpEdge
  · obtain ⟨f, hf, pf⟩ := step_ops hs hedge
    refine ⟨?_, ?_⟩
    · cases ht : l.touchesHandles
      · rw [holdStep_handles_same σ l ht, step_handles_same hs ht]; exact hh
      · have hk := kindOf_eq hh
        cases l <;> first | (cases ht; done) | (cases hedge; done) | skip
        all_goals simp only [step] at hs
        case mk h h' k' => obtain ⟨k, -, -, -, rfl⟩ := stepMk_cases hs; simp [HoldSt.step, hh]
        case upgrade h h' =>
          obtain ⟨k, ks, hk0, hks, ⟨n, rfl, -, -, rfl⟩ | ⟨rfl, -, rfl⟩⟩ := stepUpgrade_cases hs
          · simp [HoldSt.step, hk, hk0, hks, hh]
          · exact hh
        case detach h h' => obtain ⟨-, -, rfl⟩ := stepDetach_cases hs; simp [HoldSt.step, HoldSt.remove, hh, removeHandle]
        case drop h => obtain ⟨-, rfl⟩ := stepDrop_cases hs; simp [HoldSt.step, HoldSt.remove, hh, removeHandle]
        case ctxWeak k h =>
          obtain ⟨-, ⟨n, rfl, -, -, -, rfl⟩ | ⟨rfl, -, -, rfl⟩⟩ := stepCtxWeak_cases hs
          · simp [HoldSt.step, hh]
          · exact hh
    · intro r' hr'
      rw [hf] at hr'
      obtain ⟨r, hr, rfl⟩ := List.mem_map.mp hr'
      rw [holdStep_ops σ l hedge, pf.o, pf.kind, pf.h]
      exact hi.ops r hr
  · cases l <;> first | (cases hedge; done) | skip
    all_goals simp only [step] at hs
    case begin o h k =>
      have hsame : s'.handles = s.handles := step_handles_same (l := .begin o h k) hs rfl
      obtain ⟨hfresh, st, hops, -⟩ := stepBegin_ops hs
      refine ⟨by rw [hsame]; exact hh, fun r hr => ?_⟩
      rw [hops] at hr
      rcases List.mem_append.mp hr with hr | hr
      · simp only [HoldSt.step]
        rw [lookup_cons_ne (findOp_none_ne hfresh r hr).symm]
        exact hi.ops r hr
      · simp at hr; subst hr
        simp [HoldSt.step, lookup]
    case ret o r =>
      obtain ⟨rec, hfind, -, rfl⟩ := stepRet_cases hs
      refine ⟨?_, fun r0 hr0 => ?_⟩
      · rw [show (σ.step (.ret o r)) = σ.release o from rfl, release_handles hi hfind]
        unfold retEffect; simp only; split <;> split <;> split <;> rfl
      · rw [retEffect_ops] at hr0
        rw [show (σ.step (.ret o r)) = σ.release o from rfl, release_ops]
        exact hi.ops r0 (List.mem_filter.mp hr0).1
    case cdrop o =>
      obtain ⟨rec, hfind, rfl⟩ := stepCdrop_cases hs
      refine ⟨?_, fun r0 hr0 => ?_⟩
      · rw [show (σ.step (.cdrop o)) = σ.release o from rfl, release_handles hi hfind]
        split <;> rfl
      · rw [show (σ.step (.cdrop o)) = σ.release o from rfl, release_ops]
        have : r0 ∈ s.ops := by split at hr0 <;> exact (List.mem_filter.mp hr0).1
        exact hi.ops r0 this

theorem step_handle_mem {w s l s'} (hs : step w s l = some s') {p : Nat × HKind} (hp : p ∈ s'.handles) :
    p ∈ s.handles ∨
    (∃ h k, l = .mk h p.1 p.2 ∧ s.handleKind h = some k ∧ convOk k p.2 = true) ∨
    (∃ h k, l = .upgrade h (some p.1) ∧ s.handleKind h = some k ∧ k.upgraded = some p.2 ∧
        s.reqOk w (w.upgradeReq k) = true) ∨
    (∃ h, l = .detach h p.1 ∧ s.handleKind h = some .owning) ∨
    (l = .ctxWeak p.2 (some p.1) ∧ p.2.strong = false) := by
  cases hl : l.touchesHandles
  · rw [step_handles_same hs hl] at hp; exact .inl hp
  · cases l <;> first | (cases hl; done) | skip
    all_goals simp only [step] at hs
    case mk h h' k' =>
      obtain ⟨k, hk, hc, -, rfl⟩ := stepMk_cases hs
      rcases List.mem_append.mp hp with hp | hp
      · exact .inl hp
      · obtain rfl := List.mem_singleton.mp hp; exact .inr (.inl ⟨h, k, rfl, hk, hc⟩)
    case upgrade h h' =>
      obtain ⟨k, ks, hk, hks, ⟨n, rfl, hr, -, rfl⟩ | ⟨-, -, rfl⟩⟩ := stepUpgrade_cases hs
      · rcases List.mem_append.mp hp with hp | hp
        · exact .inl hp
        · obtain rfl := List.mem_singleton.mp hp; exact .inr (.inr (.inl ⟨h, k, rfl, hk, hks, hr⟩))
      · exact .inl hp
    case detach h h' =>
      obtain ⟨hk, -, rfl⟩ := stepDetach_cases hs
      rcases List.mem_append.mp hp with hp | hp
      · exact .inl (List.mem_filter.mp hp).1
      · obtain rfl := List.mem_singleton.mp hp; exact .inr (.inr (.inr (.inl ⟨h, rfl, hk⟩)))
    case drop h => obtain ⟨-, rfl⟩ := stepDrop_cases hs; exact .inl (List.mem_filter.mp hp).1
    case ctxWeak k h =>
      obtain ⟨-, ⟨n, rfl, -, hk, -, rfl⟩ | ⟨-, -, -, rfl⟩⟩ := stepCtxWeak_cases hs
      · rcases List.mem_append.mp hp with hp | hp
        · exact .inl hp
        · obtain rfl := List.mem_singleton.mp hp
          exact .inr (.inr (.inr (.inr ⟨rfl, by rcases hk with rfl | rfl | rfl <;> rfl⟩)))
      · exact .inl hp
    case ret o r =>
      obtain ⟨rec, -, -, rfl⟩ := stepRet_cases hs
      exact .inl (retEffect_handles_sub s rec p hp)
    case cdrop o =>
      obtain ⟨rec, -, rfl⟩ := stepCdrop_cases hs
      split at hp
      · exact .inl (List.mem_filter.mp hp).1
      · exact .inl hp

theorem lookup_mem {α} {k : Nat} {v : α} : ∀ {l : List (Nat × α)}, lookup k l = some v → (k, v) ∈ l
  | [], h => by simp [lookup] at h
  | (k', v') :: rest, h => by
    simp only [lookup] at h
    split at h
    · rename_i hk; simp at hk h; subst hk; subst h; simp
    · exact List.mem_cons_of_mem _ (lookup_mem h)

theorem lookup_none_of_not_any {α : Type} (t : Nat) : ∀ (l : List (Nat × α)),
    l.any (fun p => p.1 == t) = false → lookup t l = none
  | [], _ => rfl
  | (k, v) :: rest, h => by
    simp only [List.any_cons, Bool.or_eq_false_iff] at h
    simp only [lookup, h.1]
    exact lookup_none_of_not_any t rest h.2

theorem lookup_some_of_any {α : Type} (t : Nat) : ∀ (l : List (Nat × α)),
    l.any (fun p => p.1 == t) = true → (lookup t l).isSome = true
  | [], h => by simp at h
  | (k, v) :: rest, h => by
    simp only [List.any_cons, Bool.or_eq_true] at h
    simp only [lookup]
    by_cases hk : (k == t) = true
    · simp [hk]
    · simp only [hk]
      rcases h with h | h
      · exact absurd h hk
      · exact lookup_some_of_any t rest h

theorem lookup_filter_ne {α} {t t0 : Nat} {v : α} {l : List (Nat × α)}
    (h : lookup t (l.filter (fun p => p.1 != t0)) = some v) : t ≠ t0 ∧ lookup t l = some v := by
  induction l with
  | nil => cases h
  | cons p ps ih =>
    obtain ⟨a, b⟩ := p
    rw [List.filter_cons] at h
    by_cases hp : a = t0
    · rw [if_neg (by simp [hp])] at h
      obtain ⟨hne, hl⟩ := ih h
      exact ⟨hne, by rw [lookup_cons_ne (by rw [hp]; exact Ne.symm hne)]; exact hl⟩
    · rw [if_pos (by simp [hp])] at h
      by_cases hpt : a = t
      · subst hpt
        rw [lookup_cons_eq] at h ⊢
        exact ⟨hp, h⟩
      · rw [lookup_cons_ne hpt] at h ⊢
        exact ih h

end Hannibal
