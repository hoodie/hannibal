import Hannibal.Proofs.Ops
import Hannibal.Monitor.Basic
/-
  Finer view of what a step does to the operation table: apart from `begin` / `ret` / `cdrop` every
  record keeps its id, kind and handle, and its state only changes from `pending` — to `cancelled`, or to
  `pinged` (only at `tDeq`), or to `answered` with the message of the `cbEnd (.handle m) true` at hand.
-/
namespace Hannibal
open AState

theorem step_removes {w : Wiring} {s s' : AState} {l : Label} (hs : step w s l = some s') (he : l.isOpEdge = true)
    (hb : ∀ o h k, l ≠ .begin o h k) : (∀ r ∈ s'.ops, r ∈ s.ops) ∧ s'.chan = s.chan := by
  cases l <;> first | (cases he; done) | skip
  all_goals simp only [step] at hs
  case begin o h k => exact absurd rfl (hb o h k)
  case ret o r =>
    obtain ⟨rec, -, -, rfl⟩ := stepRet_cases hs
    exact ⟨fun r hr => (List.mem_filter.mp (retEffect_ops s rec ▸ hr)).1, retEffect_chan ..⟩
  case cdrop o =>
    obtain ⟨rec, -, rfl⟩ := stepCdrop_cases hs
    split <;> exact ⟨fun r hr => (List.mem_filter.mp hr).1, rfl⟩

def OpFine (l : Label) (r r' : OpRec) : Prop :=
  r'.o = r.o ∧ r'.kind = r.kind ∧ r'.h = r.h ∧
    (r'.st = r.st ∨
      (r.st = .pending ∧
        (r'.st = .cancelled ∨ (l = .tDeq ∧ r'.st = .pinged) ∨
          ∃ m b d, l = .cbEnd (.handle m) true ∧ r'.st = .answered ⟨m, b, d⟩)))

def OpsFine (l : Label) (s s' : AState) : Prop := ∃ f, s'.ops = s.ops.map f ∧ ∀ r, OpFine l r (f r)

theorem OpFine.refl (l : Label) (r : OpRec) : OpFine l r r := ⟨rfl, rfl, rfl, .inl rfl⟩

theorem step_ops_fine {w s l s'} (hs : step w s l = some s') (hl : l.isOpEdge = false) : OpsFine l s s' := by
  have key : ∀ {p st}, s'.ops = s.ops.map (resolve p st) →
      (st = .cancelled ∨ (l = .tDeq ∧ st = .pinged) ∨ ∃ m b d, l = .cbEnd (.handle m) true ∧ st = .answered ⟨m, b, d⟩) →
      OpsFine l s s' := by
    intro p st h hst
    refine ⟨_, h, fun r => ?_⟩
    rcases resolve_cases p st r with he | ⟨-, hp, he⟩ <;> rw [he]
    · exact .refl l r
    · exact ⟨rfl, rfl, rfl, .inr ⟨hp, hst⟩⟩
  cases step_opsChange hs hl with
  | same h => exact ⟨fun r => r, by simp [h], .refl l⟩
  | broken _ _ _ h | gone _ h => exact key h (.inl rfl)
  | answer m _ _ _ hl h => exact key h (.inr (.inr ⟨m, _, _, hl, rfl⟩))
  | ping _ _ _ _ h hl => exact key h (.inr (.inl ⟨hl, rfl⟩))

end Hannibal
