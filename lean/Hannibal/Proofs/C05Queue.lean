import Hannibal.Proofs.C12Step
import Hannibal.Monitor.C05
/-
  C05: which labels put a `stop` / `restart` request into the mailbox.
-/
namespace Hannibal
open AState

def isStopKind : OpKind → Bool
  | .halt | .tryHalt | .consume => true
  | _ => false

def pushN (P : Payload → Bool) : Label → Nat
  | .begin _ _ k => if isStopKind k && P .stop then 1 else 0
  | .stopReq _ _ | .ctxStop _ => if P .stop then 1 else 0
  | .restartReq _ true | .ctxRestart true => if P .restart then 1 else 0
  | _ => 0

theorem step_cnt {w : Wiring} {s s' : AState} {l : Label} (P : Payload → Bool)
    (hmsg : ∀ m sl, P (.msg m sl) = false) (htick : ∀ t, P (.tick t) = false) (hping : ∀ o, P (.ping o) = false)
    (hext : ∀ b, P (.ext b) = false)
    (hs : step w s l = some s') : cntP P s' ≤ cntP P s + pushN P l := by
  refine step_countP_le P (hmsg · none) (fun pl tok hl hp => ?_) hs
  cases hl with
  | op o h k _ hpl => subst hpl; cases k <;> simp_all [pushN, payloadOf, isStopKind]
  | fire | tick | ext => simp_all
  | _ => simp [pushN, hp]

end Hannibal
