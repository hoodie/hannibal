import Hannibal.Proofs.Tactics
/-
  Case-splitting tactics in the style of `unfold_steps`: split every `match` / `if` of an unfolded step function in
  a hypothesis and try a fixed list of closers.  For exploring by hand what a step does to one projection of the
  state; the closers name lemmas of the file one is working in.
-/
namespace Hannibal

macro "frame_crush" hs:ident : tactic => `(tactic|
  ((repeat' (split at $hs:ident)) <;>
   (first
     | (simp at $hs:ident; done)
     | (simp at $hs:ident; subst $hs:ident; first
         | exact Or.inl rfl
         | (refine Or.inl ?_; simp; done)
         | ((try simp only [setTimer_chan]); apply SameOrEnq.of_push; assumption)
         | ((try simp only [setTimer_chan]); apply SameOrEnq.of_push; simp_all; done)
         | (simp; done)
         | rfl))))

macro "ops_crush" hs:ident : tactic => `(tactic|
  ((repeat' (split at $hs:ident)) <;>
   (first
     | (simp at $hs:ident; done)
     | (simp at $hs:ident; subst $hs:ident; first
         | exact OpsMap.of_eq rfl
         | (refine OpsMap.of_eq ?_; simp; done)
         | (refine OpsMap.of_eq ?_; simp; done)
         | exact fail_opsMap _
         | exact finish_opsMap _))))

macro "opsame" hs:ident : tactic => `(tactic|
  ((repeat' (split at $hs:ident)) <;>
   (first
     | (simp at $hs:ident; done)
     | (simp at $hs:ident; subst $hs:ident; first
         | exact OpsChange.same rfl
         | (refine OpsChange.same ?_; simp; done)))))

macro "opsame2" hs:ident : tactic => `(tactic|
  ((repeat' (split at $hs:ident)) <;>
   (first
     | (simp at $hs:ident; done)
     | (simp at $hs:ident; subst $hs:ident; first
         | exact OpsChange2.same rfl
         | (refine OpsChange2.same ?_; simp; done)))))

macro "opsame02c" hs:ident : tactic => `(tactic|
  ((repeat' (split at $hs:ident)) <;>
   (first
     | (simp at $hs:ident; done)
     | (simp at $hs:ident; subst $hs:ident; first
         | exact OpsCh02c.same rfl
         | (refine OpsCh02c.same ?_; simp; done)))))

macro "fine_crush" hs:ident : tactic => `(tactic|
  ((repeat' (split at $hs:ident)) <;>
   (first
     | (simp at $hs:ident; done)
     | (simp at $hs:ident; subst $hs:ident; first
         | exact OpsFine.of_eq rfl
         | (refine OpsFine.of_eq ?_; simp; done)
         | exact fail_fine _ _
         | exact finish_fine _ _
         | exact (OpsFine.of_eq rfl).trans (fail_fine _ _)
         | exact (cancelSlots_fine _ _ _).trans (.of_eq rfl)
         | exact (fail_fine _ _).trans (.of_eq rfl)))))

macro "cover_crush" hs:ident : tactic => `(tactic|
  ((repeat' (split at $hs:ident)) <;>
   (first
     | (simp at $hs:ident; done)
     | (simp only [Option.some.injEq] at $hs:ident; subst $hs:ident
        exact cover_frame rfl (by simp [slotsC, slotsP, curSlotOf, qC, qP, cSlot, pSlot, *])
          (by simp [slotsP, qP, pSlot])))))

end Hannibal
