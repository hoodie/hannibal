import Hannibal.Proofs.Ops
/-
  Model facts behind C01: what one step does to the sequence of user messages waiting in the
  mailbox, to the receiver flag, to the statuses of the recorded operations, and to the slot of the
  open handler invocation.
-/
namespace Hannibal
open AState

def msgNo : Payload → Option Nat
  | .msg m _ => some m
  | _ => none

def qmsgs (c : Chan) : List Nat := c.queue.filterMap (fun e => msgNo e.pl)

theorem msgNo_payloadOf (o : Nat) (k : OpKind) (hk : k ≠ .await ∧ k ≠ .join) : msgNo (payloadOf o k) = k.msg? := by
  cases k <;> rfl

theorem qmsgs_enq (c : Chan) (e : Entry) :
    qmsgs (c.enq e) = qmsgs c ++ (match msgNo e.pl with | some m => [m] | none => []) := by
  unfold qmsgs
  rw [Chan.enq_queue, List.filterMap_append]
  cases h : msgNo e.pl <;> simp [h]

def QRel (l : Label) (c c' : Chan) : Prop :=
  match l with
  | .begin _ _ k =>
    (qmsgs c' = qmsgs c ∧ c'.rx = c.rx) ∨
      (∃ m, k.msg? = some m ∧ qmsgs c' = qmsgs c ++ [m] ∧ c.rx = true ∧ c'.rx = true)
  | .fire _ mo =>
    (qmsgs c' = qmsgs c ∧ c'.rx = c.rx) ∨
      (∃ m, mo = some m ∧ qmsgs c' = qmsgs c ++ [m] ∧ c.rx = true ∧ c'.rx = true)
  | .tickBegin _ m => qmsgs c' = m :: qmsgs c ∧ c'.rx = c.rx
  | .extBegin _ m => qmsgs c' = m :: qmsgs c ∧ c'.rx = c.rx
  | .cbBegin (.handle m) => qmsgs c = m :: qmsgs c' ∧ c'.rx = c.rx
  | .cancel | .taskDone | .taskPanic => qmsgs c' = [] ∧ c'.rx = false
  | _ => qmsgs c' = qmsgs c ∧ c'.rx = c.rx

theorem QRel.shape {l : Label} {c c' : Chan} (h : QRel l c c') :
    (∃ m, l = .cbBegin (.handle m) ∧ qmsgs c = m :: qmsgs c' ∧ c'.rx = c.rx) ∨
    ((∀ m, l ≠ .cbBegin (.handle m)) ∧
      ((qmsgs c' = qmsgs c ∧ c'.rx = c.rx) ∨ (∃ m, qmsgs c' = qmsgs c ++ [m] ∧ c.rx = true ∧ c'.rx = true) ∨
       (∃ m, qmsgs c' = m :: qmsgs c ∧ c'.rx = c.rx) ∨ (qmsgs c' = [] ∧ c'.rx = false))) := by
  cases l
  case cbBegin cb => cases cb <;> first | exact .inl ⟨_, rfl, h⟩ | exact .inr ⟨nofun, .inl h⟩
  all_goals refine .inr ⟨fun _ h => Label.noConfusion h, ?_⟩
  case begin | fire => exact h.elim .inl fun ⟨m, _, h⟩ => .inr (.inl ⟨m, h⟩)
  case tickBegin t m | extBegin t m => exact .inr (.inr (.inl ⟨m, h⟩))
  case cancel | taskDone | taskPanic => exact .inr (.inr (.inr h))
  all_goals exact .inl h

theorem stepBegin_spec {w s o h k s'} (hs : stepBegin w s o h k = some s') :
    ∃ st, s'.ops = s.ops ++ [{ o, h, kind := k, st }] ∧
      ((s'.chan = s.chan ∧ (k.msg? = none ∨ ∃ e, st = .failed e)) ∨
       (s.chan.rx = true ∧ ∃ tok, s'.chan = s.chan.enq { pl := payloadOf o k, tok } ∧ k ≠ .await ∧ k ≠ .join)) := by
  obtain ⟨-, st, hops, hout, -⟩ := stepBegin_ops hs
  refine ⟨st, hops, ?_⟩
  cases hout with
  | refused e hst hc => exact .inl ⟨hc, .inr ⟨e, hst⟩⟩
  | wait hpl hc => exact .inl ⟨hc, .inl (by cases k <;> first | rfl | cases hpl)⟩
  | sent pl tok hpl hrx hc => cases k <;> cases hpl <;> exact .inr ⟨hrx, tok, hc, nofun, nofun⟩

theorem qmsgs_dropRx (c : Chan) : qmsgs c.dropRx = [] := rfl

theorem QRel.of_chanOf {l c c'} (h : ChanOf l c c') : QRel l c c' := by
  cases h with
  | same hl h =>
    subst h
    cases l <;> first | (cases hl; done) | exact ⟨rfl, rfl⟩ | exact .inl ⟨rfl, rfl⟩ | skip
    rename_i cb; cases cb <;> first | (cases hl; done) | exact ⟨rfl, rfl⟩
  | enq pl tok t hl _ hrx h =>
    have hq : qmsgs c' = qmsgs c ++ (match msgNo pl with | some m => [m] | none => []) := h ▸ qmsgs_enq ..
    have hrx' : c'.rx = true := by rw [h, Chan.enq_rx, hrx]
    cases hl with
    | op o h' k hk hp =>
      subst hp
      rw [msgNo_payloadOf o k hk] at hq
      cases hm : k.msg? with
      | none => exact .inl ⟨by simpa [hm] using hq, hrx'.trans hrx.symm⟩
      | some m => exact .inr ⟨m, hm, by simpa [hm] using hq, hrx, hrx'⟩
    | fire t n => exact .inr ⟨n, rfl, hq, hrx, hrx'⟩
    | _ => exact ⟨by simpa [msgNo] using hq, hrx'.trans hrx.symm⟩
  | deq pl tok rest hl hq _ h => subst h; cases hl <;> exact ⟨by simp [qmsgs, Chan.deq, hq, msgNo], rfl⟩
  | bind pl m tok rest hl hq h => subst h; cases hl <;> exact ⟨by simp [qmsgs, hq, msgNo], rfl⟩
  | drop hl h => subst h; cases l <;> first | (cases hl; done) | exact ⟨rfl, rfl⟩

/-- Every step acts on the waiting user messages as an append (submission), a pop of the head (the
    handler begins), a head insertion (a tick at the head gets its message id), or a wipe. -/
theorem step_q {w s l s'} (hs : step w s l = some s') : QRel l s.chan s'.chan :=
  .of_chanOf (step_chanOf hs)

def StUpd (s : AState) (l : Label) (r : OpRec) (st' : OpSt) : Prop :=
  st' = .cancelled ∨ st' = .pinged ∨
    ∃ m dl, l = .cbEnd (.handle m) true ∧ s.phase = .handling (.handle m) (some r.o) dl ∧
      st' = .answered { m, birth := s.birth, digest := s.log }

def OpsUpd (s : AState) (l : Label) (s' : AState) : Prop :=
  ∃ f : OpRec → OpRec, s'.ops = s.ops.map f ∧
    ∀ r, f r = r ∨ (r.st = .pending ∧ ∃ st', f r = { r with st := st' } ∧ StUpd s l r st')

theorem step_ops_upd {w s l s'} (hs : step w s l = some s') (hl : l.isOpEdge = false) : OpsUpd s l s' := by
  have key : ∀ {p st}, s'.ops = s.ops.map (resolve p st) → (∀ r, p r = true → StUpd s l r st) → OpsUpd s l s' := by
    intro p st h hst
    refine ⟨_, h, fun r => ?_⟩
    rcases resolve_cases p st r with he | ⟨hp, hpend, he⟩
    · exact .inl he
    · exact .inr ⟨hpend, st, he, hst r hp⟩
  cases step_opsChange hs hl with
  | same h => exact ⟨fun r => r, by simp [h], fun _ => .inl rfl⟩
  | broken _ _ _ h | gone _ h => exact key h fun _ _ => .inl rfl
  | answer m o dl hp hl h => exact key h fun r hr => .inr (.inr ⟨m, dl, hl, by rw [hp, beq_iff_eq.mp hr], rfl⟩)
  | ping _ _ _ _ h => exact key h fun _ _ => .inr (.inl rfl)

theorem mem_of_opsUpd {s l s'} (h : OpsUpd s l s') {r' : OpRec} (hr' : r' ∈ s'.ops) :
    ∃ r ∈ s.ops, r'.o = r.o ∧ r'.kind = r.kind ∧
      (r' = r ∨ (r.st = .pending ∧ StUpd s l r r'.st)) := by
  obtain ⟨f, hf, hp⟩ := h
  rw [hf] at hr'
  obtain ⟨r, hr, rfl⟩ := List.mem_map.mp hr'
  refine ⟨r, hr, ?_⟩
  rcases hp r with h | ⟨hpend, st', h, hst⟩
  · rw [h]; exact ⟨rfl, rfl, .inl rfl⟩
  · rw [h]; exact ⟨rfl, rfl, .inr ⟨hpend, hst⟩⟩

theorem mem_ops_step {w s l s'} (hs : step w s l = some s') (hb : ∀ o h k, l ≠ .begin o h k)
    {r' : OpRec} (hr' : r' ∈ s'.ops) :
    ∃ r ∈ s.ops, r'.o = r.o ∧ r'.kind = r.kind ∧ (r' = r ∨ (r.st = .pending ∧ StUpd s l r r'.st)) := by
  cases he : l.isOpEdge
  · exact mem_of_opsUpd (step_ops_upd hs he) hr'
  · obtain ⟨hr, -⟩ := (edge_ops hs he r' hr').resolve_right fun ⟨o, h, k, _, hl, _⟩ => hb o h k hl
    exact ⟨r', hr, rfl, rfl, .inl rfl⟩

def slotNo : Payload → Option (Nat × Nat)
  | .msg m (some o) => some (m, o)
  | _ => none

/-- (message, call operation) pairs waiting in the mailbox -/
def qslots (c : Chan) : List (Nat × Nat) := c.queue.filterMap (fun e => slotNo e.pl)

theorem slotNo_payloadOf {o : Nat} {k : OpKind} {m o' : Nat} (h : slotNo (payloadOf o k) = some (m, o')) :
    o' = o ∧ k.msg? = some m := by
  cases k <;> simp [payloadOf, slotNo] at h <;> simp [OpKind.msg?, h]

theorem qslots_enq (c : Chan) (e : Entry) :
    qslots (c.enq e) = qslots c ++ (match slotNo e.pl with | some x => [x] | none => []) := by
  unfold qslots
  rw [Chan.enq_queue, List.filterMap_append]
  cases h : slotNo e.pl <;> simp [h]

theorem qslots_deq_sub (c : Chan) : ∀ x ∈ qslots c.deq, x ∈ qslots c := by
  intro x hx
  obtain ⟨e, he, hx⟩ := List.mem_filterMap.mp hx
  exact List.mem_filterMap.mpr ⟨e, List.mem_of_mem_tail he, hx⟩

def SRel (l : Label) (c c' : Chan) : Prop :=
  match l with
  | .begin o _ k => qslots c' = qslots c ∨ ∃ m, k.msg? = some m ∧ qslots c' = qslots c ++ [(m, o)]
  | _ => ∀ x ∈ qslots c', x ∈ qslots c

theorem srel_of_sub {l : Label} {c c' : Chan} (hl : ∀ o h k, l ≠ .begin o h k)
    (h : ∀ x ∈ qslots c', x ∈ qslots c) : SRel l c c' := by
  cases l <;> simp only [SRel] <;> first | exact h | exact absurd rfl (hl _ _ _)

theorem SRel.of_chanOf {l c c'} (h : ChanOf l c c') : SRel l c c' := by
  cases h with
  | same _ h => subst h; cases l <;> first | exact fun _ hx => hx | exact .inl rfl
  | enq pl tok t hl _ _ h =>
    subst h
    cases hl with
    | op o h' k hk hp =>
      subst hp
      simp only [SRel, qslots_enq]
      cases hsl : slotNo (payloadOf o k) with
      | none => exact .inl (by simp)
      | some x =>
        obtain ⟨m, o'⟩ := x
        obtain ⟨rfl, hm⟩ := slotNo_payloadOf hsl
        exact .inr ⟨m, hm, rfl⟩
    | _ => simp [SRel, qslots_enq, slotNo]
  | deq pl tok rest hl _ _ h => subst h; cases hl <;> exact qslots_deq_sub _
  | bind pl m tok rest hl hq h => subst h; cases hl <;> simp [SRel, qslots, hq, slotNo]
  | drop hl h => subst h; cases l <;> first | (cases hl; done) | exact nofun

theorem step_slots {w s l s'} (hs : step w s l = some s') : SRel l s.chan s'.chan :=
  .of_chanOf (step_chanOf hs)

theorem stepCbBegin_handling {w s cb s'} (hs : stepCbBegin w s cb = some s') :
    (∀ m slot dl, s.phase ≠ .handling (.handle m) slot dl) ∧
    ∀ m slot dl, s'.phase = .handling (.handle m) slot dl →
      cb = .handle m ∧ ∃ tok rest, s.chan.queue = { pl := .msg m slot, tok } :: rest := by
  cases loopStep_cbBegin hs
  case handle m slot tok rest hp hq hrx =>
    refine ⟨by simp [hp], fun m' slot' dl' h => ?_⟩
    simp only [Phase.handling.injEq, Cb.handle.injEq] at h
    obtain ⟨rfl, rfl, -⟩ := h
    exact ⟨rfl, tok, rest, hq⟩
  all_goals exact ⟨by simp [*], by simp⟩

end Hannibal
