import Hannibal.Proofs.C05Queue
import Hannibal.Proofs.Timers
/-
  C05: how the loop reaches its final `stopped`: phases, and the three ways out of `idle`.
-/
namespace Hannibal
open AState

/-- phases from which the loop can still take something out of the mailbox -/
def loopAlive : Phase → Bool
  | .unstarted | .starting | .idle | .handling _ _ _ | .rstBegin | .rstStopping | .rstStopped _ => true
  | _ => false

/-- the loop has left, the final `stopped` has not begun -/
def leavingPh : Phase → Bool
  | .leaving | .finishing | .finishedDone => true
  | _ => false

/-- 1 between taking a restart request off the mailbox and the `stopped` of the old incarnation: the request is
    still pending, but no longer counted in the mailbox -/
def rb : Phase → Nat
  | .rstBegin => 1
  | _ => 0

def isStopP : Payload → Bool
  | .stop => true
  | _ => false

def isRestartP : Payload → Bool
  | .restart => true
  | _ => false

theorem step_phase_facts {w : Wiring} {s s' : AState} {l : Label} (hs : step w s l = some s')
    (hl : l.isTau = false) :
    (loopAlive s'.phase = true → loopAlive s.phase = true ∧ rb s'.phase ≤ rb s.phase) ∧
    (leavingPh s'.phase = true → leavingPh s.phase = true) := by
  cases hl' : l.isLoop
  · rw [step_phase hs hl']; exact ⟨fun h => ⟨h, Nat.le_refl _⟩, id⟩
  · cases step_loop hs hl' <;> simp_all [loopAlive, leavingPh, rb, Label.isTau]

theorem alive_mono {w s l s'} (hs : step w s l = some s') (h : loopAlive s'.phase = true) :
    loopAlive s.phase = true := by
  cases hl : l.isLoop
  · rwa [step_phase hs hl] at h
  · cases step_loop hs hl <;> simp_all [loopAlive]

theorem stepDeq_spec {s s' : AState} (hs : stepDeq s = some s') :
    s.phase = .idle ∧ ∃ e rest, s.chan.queue = e :: rest ∧ s'.chan = s.chan.deq ∧
      s'.cfg = s.cfg ∧ s'.streamEnded = s.streamEnded ∧
      ((e.pl = .stop ∧ s'.phase = .leaving) ∨ (e.pl = .restart ∧ s'.phase = .rstBegin) ∨ s'.phase = .idle) := by
  unfold stepDeq at hs
  split at hs
  · rename_i e rest hph hq
    refine ⟨hph, e, rest, hq, ?_⟩
    split at hs
    · cases hs
    · dsimp only at hs
      split at hs
      · obtain rfl := Option.some.inj hs; exact ⟨rfl, rfl, rfl, .inr (.inr hph)⟩
      · rename_i he; obtain rfl := Option.some.inj hs; exact ⟨rfl, rfl, rfl, .inl ⟨he, rfl⟩⟩
      · rename_i he
        split at hs
        · cases hs
        · split at hs <;> obtain rfl := Option.some.inj hs
          · exact ⟨rfl, rfl, rfl, .inr (.inr hph)⟩
          · exact ⟨rfl, rfl, rfl, .inr (.inl ⟨he, rfl⟩)⟩
      · cases hs
  · cases hs

theorem stepChanEnd_spec {w : Wiring} {s s' : AState} (hs : stepChanEnd w s = some s') :
    s.phase = .idle ∧ s.sendersAlive w = false ∧ s' = { s with phase := .leaving } := by
  cases step_loop (l := .tChanEnd) hs rfl with
  | chanEnd hp _ hsa => exact ⟨hp, hsa, rfl⟩

theorem stepStreamEndTau_spec {s s' : AState} (hs : stepStreamEndTau s = some s') :
    s.phase = .idle ∧ s.cfg.stream = true ∧ s.streamEnded = true ∧ s' = { s with phase := .leaving } := by
  unfold stepStreamEndTau at hs
  split at hs
  · rename_i hph
    split at hs
    · rename_i hc
      simp at hs; subst hs
      simp at hc
      exact ⟨hph, hc.1.1, hc.1.2, rfl⟩
    · simp at hs
  · simp at hs

end Hannibal
