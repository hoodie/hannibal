import Hannibal.Proofs.Latch
/-
  Termination announcement: state invariants relating the latch, the join result and the phase
  (given that the loop notifies after `stopped()`).
-/
namespace Hannibal
open AState

def latchOk (l : Latch) (p : Phase) : Bool :=
  match l, p with
  | .pending, .done _ => false
  | .pending, _ => true
  | .fired, .done true => true
  | .dropped, .done false => true
  | _, _ => false

def resultOk (r : Option Final) (p : Phase) (birth : Nat) (log : List Nat) : Bool :=
  match r with
  | none => true
  | some f => p == .done true && f.birth == birth && f.stoppedSeen && f.digest == log

structure TermInv (s : AState) : Prop where
  latch : latchOk s.latch s.phase = true
  result : resultOk s.result s.phase s.birth s.log = true

theorem termInv_init (cfg : Cfg) (h0 : Nat) (k0 : HKind) : TermInv (AState.init cfg h0 k0) := by
  constructor <;> simp [AState.init, latchOk, resultOk]

theorem TermInv.pending {s : AState} (h : TermInv s) (hd : s.isDone = false) :
    s.latch = .pending ∧ s.result = none := by
  obtain ⟨h1, h2⟩ := h
  unfold isDone at hd
  cases hl : s.latch <;> cases hr : s.result <;> cases hp : s.phase <;> simp_all [latchOk, resultOk]

theorem TermInv.of_pending {s : AState} (hl : s.latch = .pending) (hr : s.result = none) (hd : s.isDone = false) :
    TermInv s := by
  unfold isDone at hd
  constructor <;> cases hp : s.phase <;> simp_all [latchOk, resultOk]

theorem termInv_fail (s : AState) (hl : s.latch = .pending) : TermInv s.fail := by
  constructor <;> simp [fail, cancelSlots, killTimers, latchOk, resultOk, hl]

theorem termInv_finish (s : AState) (hl : s.latch = .pending) : TermInv s.finish := by
  constructor <;> simp [finish, cancelSlots, killTimers, latchOk, resultOk, hl]

theorem termInv_step (w : Wiring) (hw : w.notifyAfterStopped = true) {s s' : AState} {l : Label}
    (hs : step w s l = some s') (hi : TermInv s) : TermInv s' := by
  cases hl : l.isLoop
  · obtain ⟨h1, h2⟩ := hi
    refine ⟨by rw [step_latch hs hl, step_phase hs hl]; exact h1, ?_⟩
    rcases step_result_cases hs hl with h | h <;> rw [h]
    · rw [step_phase hs hl, step_birth hs hl, step_log hs hl]; exact h2
    · rfl
  · have hmove := step_loop hs hl
    clear hs
    cases hd : s.isDone
    · -- the task has not ended: it ends now (`fail` / `finish`), or everything stays pending
      obtain ⟨hlp, hrn⟩ := hi.pending hd
      have hne : (s.notifyEarly w).latch = .pending := by simp [notifyEarly, hw, hlp]
      cases hmove
      case cancel => exact ⟨(termInv_fail s hlp).1, (termInv_fail s hlp).2⟩
      case doneErr | panicErr => exact termInv_fail s hlp
      case panicRestart => exact termInv_fail _ hlp
      case doneOk => exact termInv_finish s hlp
      case stopped | stoppedFin => exact .of_pending hne hrn rfl
      case dropGuard hp _ => simp [isDone, hp] at hd
      all_goals first | exact .of_pending hlp hrn rfl | exact .of_pending hlp hrn hd
    · -- after the end only the drop guard of a cancelled callback moves, and it touches neither field
      cases hmove
      case dropGuard => exact ⟨hi.1, hi.2⟩
      case panic ho => rw [openCb_not_done ho] at hd; cases hd
      case cancel hd' => rw [hd'] at hd; cases hd
      all_goals simp [isDone, *] at hd

theorem latchOk_fired {p : Phase} (h : latchOk .fired p = true) : p = .done true := by
  cases p <;> first | cases h | skip
  rename_i g; cases g <;> first | rfl | cases h

theorem latchOk_dropped {p : Phase} (h : latchOk .dropped p = true) : p = .done false := by
  cases p <;> first | cases h | skip
  rename_i g; cases g <;> first | rfl | cases h

end Hannibal
