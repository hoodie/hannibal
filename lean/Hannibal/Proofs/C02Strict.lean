import Hannibal.Proofs.C02Ret
/-
  C02, trace-only clause under the assumption that the task is not cancelled right after `stopped`:
  while the monitor's `graceful` flag is up the loop is between `stopped` and its next callback / its end,
  or has ended gracefully.
-/
namespace Hannibal
open AState

def gracePhase : Phase → Bool
  | .exiting true | .rstStopped _ | .done true => true
  | _ => false

theorem gracePhase_step (w : Wiring) {s s' : AState} {σ : C02St} {l : Label} (hs : step w s l = some s')
    (hnc : l = .cancel → σ.graceful = false)
    (hi : σ.graceful = true → gracePhase s.phase = true) :
    (next02 σ l).graceful = true → gracePhase s'.phase = true := by
  cases hl : l.isLoop
  · rw [step_phase hs hl, next02_graceful_other σ hl]; exact hi
  · have h := step_loop hs hl
    clear hs
    cases h
    case panic cb ho => cases hp : s.phase <;> simp_all [gracePhase, openCb]
    all_goals simp_all [gracePhase]

theorem monC02nc_step (c : MonCtx) (σ : C02St) {l : Label} (h : l = .cancel → σ.graceful = false) :
    (monC02nc c).step σ.graceful l = some (next02 σ l).graceful := by
  cases l <;> first | rfl | skip
  case cancel => show _ = some σ.graceful; rw [h rfl]; rfl
  case cbEnd cb ok => cases cb <;> cases ok <;> rfl

theorem monC02nc_cancel {c : MonCtx} {g g' : Bool} (h : (monC02nc c).step g .cancel = some g') : g = false := by
  cases g
  · rfl
  · cases h

/-- the trace-only clause: a late await returns Ok while the `graceful` flag is up -/
theorem ret_accept_t {s : AState} {σ : C02St} {o : Nat} {res : Res} {rec : OpRec}
    (hfind : s.findOp o = some rec) (hexp : s.retExpect rec = some res) (hok : opOk σ rec = true)
    (ht : TermInv s) (hg : σ.graceful = true → gracePhase s.phase = true) :
    bad02t σ (.ret o res) = false := by
  obtain ⟨_, hro⟩ := findOp_some_mem hfind
  obtain ⟨late, h1, h2, h3, h4⟩ := opOk_parts hok
  rw [hro] at h1
  simp only [bad02t, h1]
  cases hk : rec.kind <;> try rfl
  cases late <;> try rfl
  simp only [Bool.and_eq_false_iff]
  cases hgr : σ.graceful
  · exact .inl rfl
  · refine .inr ?_
    have hph := hg hgr
    have hls := h3 rfl
    cases retExpect_row hexp with
    | fired => rfl
    | dropped _ _ hla =>
      -- a dropped latch means a failed end, and then the flag is down
      have hl := ht.latch
      rw [hla] at hl
      cases hp : s.phase with
      | done g => cases g <;> simp_all [latchOk, gracePhase]
      | _ => simp_all [latchOk, gracePhase]
    | _ => simp_all [lateSt, stOk, OpKind.isSend, OpKind.isCall]

end Hannibal
