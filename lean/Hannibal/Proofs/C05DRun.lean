import Hannibal.Proofs.Guarded
import Hannibal.Monitor.Basic
/-
  Runs in which the client only drops the future of an operation whose submission went through (`dstep`,
  `drun`: the guarded step plus the guard `AState.cdropOk` on `cdrop`) are guarded runs, hence runs; a one-step
  simulation that uses the guard lifts to them.
-/
namespace Hannibal

theorem dstep_gstep {w : Wiring} {s s' : AState} {l : Label} (h : dstep w s l = some s') :
    gstep w s l = some s' := by
  unfold dstep at h
  split at h
  · split at h
    · exact h
    · simp at h
  · exact h

theorem dstep_step {w : Wiring} {s s' : AState} {l : Label} (h : dstep w s l = some s') :
    step w s l = some s' := gstep_step (dstep_gstep h)

theorem dstep_cdropOk {w : Wiring} {s s' : AState} {o : Nat} (h : dstep w s (.cdrop o) = some s') :
    s.cdropOk o = true := by
  simp only [dstep] at h
  split at h
  · assumption
  · simp at h

theorem drun_folds (w : Wiring) : Folds (dstep w) (drun w) :=
  ⟨fun _ => rfl, fun s l _ => by rw [drun]; cases dstep w s l <;> rfl⟩

theorem drun_grun {w : Wiring} : ∀ (ls : List Label) (s s' : AState), drun w s ls = some s' → grun w s ls = some s' :=
  fun ls s s' h => by
    obtain ⟨_, hr, rfl⟩ :=
      (drun_folds w).sim (grun_folds w) Eq (fun _ a' _ _ hab hd => ⟨a', hab ▸ dstep_gstep hd, rfl⟩) ls s s' s rfl h
    exact hr

theorem drun_run {w : Wiring} (ls : List Label) (s s' : AState) (h : drun w s ls = some s') :
    run w s ls = some s' := grun_run ls s s' (drun_grun ls s s' h)

/-- at a `cdrop` the simulation may use the guard of `dstep` -/
theorem ok_of_drun_lift_wf {σ τ : Type} (m : Mon σ) (wf : Mon τ) (w : Wiring) (Inv : AState → σ → τ → Prop)
    (hstep : ∀ s s' st t t' l, Inv s st t → step w s l = some s' → (∀ o, l = .cdrop o → s.cdropOk o = true) →
      wf.step t l = some t' → ∃ st', m.step st l = some st' ∧ Inv s' st' t')
    (s0 : AState) (hinit : Inv s0 m.init wf.init) (ls : List Label) (s : AState) (hr : drun w s0 ls = some s)
    (hwf : wf.ok ls = true) : m.ok ls = true :=
  (drun_folds w).ok_of_sim_wf m wf Inv
    (fun s s' st t t' l hi hd => hstep s s' st t t' l hi (dstep_step hd) fun o he => by subst he; exact dstep_cdropOk hd)
    s0 hinit ls s hr hwf

end Hannibal
