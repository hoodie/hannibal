import Hannibal.Props.C01
import Hannibal.Props.C04
import Hannibal.Proofs.C05Dead
import Hannibal.Proofs.C04QRel
/-
  C04 (drain barrier): the coupling invariant between the actor model and `monC04q`, and its one-step
  preservation.  The C01 invariant runs alongside as a ghost (it knows that a message whose submission
  went through is handled, waiting, or dropped with the mailbox, and that an answered call was handled).
-/
namespace Hannibal
open AState

/-- a latch that fired belongs to a loop that has left (whether the loop notifies before or after `stopped()`) -/
def LatchPast (s : AState) : Prop := s.latch = .fired → loopAlive s.phase = false

theorem latchPast_init (cfg : Cfg) (h0 : Nat) (k0 : HKind) : LatchPast (AState.init cfg h0 k0) :=
  fun h => nomatch h

theorem latchPast_step {w : Wiring} {s s' : AState} {l : Label} (hs : step w s l = some s')
    (hi : LatchPast s) : LatchPast s' := by
  unfold LatchPast at *
  cases hl : l.isLoop
  · rwa [step_latch hs hl, step_phase hs hl]
  · cases step_loop hs hl <;> clear hs <;> simp_all [loopAlive, cancelSlots]

theorem retExpect_halt_ok {s : AState} {rec : OpRec} (hk : haltKind rec.kind = true)
    (h : s.retExpect rec = some .ok) : s.latch = .fired := by
  cases retExpect_row h with
  | fired _ _ hl => exact hl
  | sent _ hs => cases hkk : rec.kind <;> rw [hkk] at hk hs <;> first | (cases hk; done) | cases hs
  | pinged _ hp => rw [hp] at hk; cases hk

theorem retExpect_send_ok {s : AState} {rec : OpRec} {m : Nat} (hk : sendMsg? rec.kind = some m)
    (h : s.retExpect rec = some .ok) : rec.st = .pending := by
  cases retExpect_row h with
  | sent hst | fired hst => exact hst
  | pinged _ hp => rw [hp] at hk; cases hk

theorem retExpect_call_val {s : AState} {rec : OpRec} {m : Nat} {r : Res} (hk : callMsg? rec.kind = some m)
    (h : s.retExpect rec = some r) (hr : r.isErr = false) : ∃ rep, rec.st = .answered rep := by
  cases retExpect_row h with
  | answered v hst => exact ⟨v, hst⟩
  | sent _ hk' | fired _ hk' =>
    cases hkk : rec.kind <;> rw [hkk] at hk hk' <;> first | (cases hk; done) | cases hk'
  | pinged _ hk' | joinNone _ hk' | joinedNone _ _ hk' => rw [hk'] at hk; cases hk
  | joined _ _ _ hk' => rcases hk' with hk' | hk' <;> (rw [hk'] at hk; cases hk)
  | _ => cases hr

theorem sendMsg_msg {k : OpKind} {m : Nat} (h : sendMsg? k = some m) :
    k.msg? = some m ∧ (isWaitOp k = true ∨ holderKind k = true) := by
  cases k <;> simp [sendMsg?] at h <;> simp [OpKind.msg?, isWaitOp, holderKind, h]

theorem callMsg_msg {k : OpKind} {m : Nat} (h : callMsg? k = some m) : k.msg? = some m := by
  cases k <;> simp [callMsg?] at h <;> simp [OpKind.msg?, h]

def OpsT (s : AState) (ops : List (Nat × OpKind)) : Prop := ∀ rec ∈ s.ops, lookup rec.o ops = some rec.kind

theorem opsT_step {w s l s'} {ops : List (Nat × OpKind)} (hi : OpsT s ops) (hs : step w s l = some s') :
    OpsT s' (opsNext4 ops l) := by
  intro rec hrec
  cases hedge : l.isOpEdge
  · obtain ⟨f, hops, hf⟩ := step_ops hs hedge
    obtain ⟨r, hr, rfl⟩ := List.mem_map.mp (hops ▸ hrec)
    have hl : opsNext4 ops l = ops := by cases l <;> first | rfl | cases hedge
    rw [hl, hf.o, hf.kind]
    exact hi r hr
  · cases l <;> first | (cases hedge; done) | simp only [step] at hs
    case begin o h k =>
      obtain ⟨hfresh, st, hops, -⟩ := stepBegin_ops hs
      rcases List.mem_append.mp (hops ▸ hrec) with hrec | hrec
      · exact (lookup_cons_ne (findOp_none_ne hfresh rec hrec).symm).trans (hi rec hrec)
      · obtain rfl := List.mem_singleton.mp hrec
        exact lookup_cons_eq
    case ret o r =>
      obtain ⟨_, _, _, hops, _⟩ := stepRet_ops hs
      exact hi rec (List.mem_filter.mp (hops ▸ hrec)).1
    case cdrop o => exact hi rec (List.mem_filter.mp (stepCdrop_ops hs ▸ hrec)).1

theorem OpsT.ret {w s s' o r} {ops : List (Nat × OpKind)} (hi : OpsT s ops)
    (hs : step w s (.ret o r) = some s') :
    ∃ rec ∈ s.ops, lookup o ops = some rec.kind ∧ s.retExpect rec = some r := by
  obtain ⟨rec, hfind, hexp, -, rfl⟩ := stepRet_ops hs
  obtain ⟨hrec, -⟩ := findOp_some_mem hfind
  exact ⟨rec, hrec, hi rec hrec, hexp⟩

theorem flagsq_step (w : Wiring) (c : MonCtx) {s s' : AState} {σ : C04qSt} {l : Label}
    (hi : ∃ sd, Flags04 c s σ.failure sd) (hs : step w s l = some s') :
    ∃ sd, Flags04 c s' (failureNext c σ l) sd := by
  obtain ⟨sd, hf⟩ := hi
  have := flags04_step w c
    (σ := { hold := HoldSt.init 0 .addr, failure := σ.failure, stoppedDone := sd, terminated := false }) hf hs
  simp only [next04_failure] at this
  exact ⟨_, this⟩

structure C04qInv (c : MonCtx) (s : AState) (σ : C04qSt) (σ1 : C01St) (g : Wf01St) : Prop where
  c01 : C01Inv s σ1 g
  handledEq : σ1.handled = σ.handled
  ops : OpsT s σ.ops
  fl : ∃ sd, Flags04 c s σ.failure sd
  term : σ.terminated = s.isDone
  lp : LatchPast s
  rx : RxInv s
  se : σ.streamEnded = s.streamEnded
  lateSeen : ∀ m ∈ σ.late, m ∈ g.seenM
  notLate : ∀ m ∈ σ.handled, m ∉ σ.late
  /-- (a) no late message waits ahead of the first stop request -/
  noLate : loopAlive s.phase = true → ∀ m ∈ σ.late, m ∉ ahead s.chan.queue
  stopWaits : σ.stopAccepted = true → loopAlive s.phase = true → hasStop s.chan.queue = true
  noStop : loopAlive s.phase = true → σ.stopIssued = false → hasStop s.chan.queue = false
  /-- (b) a message acknowledged before the first stop request is handled or waits ahead of every stop -/
  sent : ∀ m ∈ σ.sentOk, m ∈ σ.handled ∨ off c σ = true ∨
    (loopAlive s.phase = true ∧ m ∈ ahead s.chan.queue)
  left : loopAlive s.phase = false → σ.stopIssued = true ∨ off c σ = true ∨ Dead05 s

theorem C04qInv.seenq {c s σ σ1 g} (hi : C04qInv c s σ σ1 g) : ∀ m ∈ ahead s.chan.queue, m ∈ g.seenM := by
  have hq : QInv _ _ _ _ _ _ := hi.c01.qc
  exact fun m hm => hq.seenq m (ahead_sub_qmsgs _ m hm)

theorem C04qInv.seenh {c s σ σ1 g} (hi : C04qInv c s σ σ1 g) : ∀ m ∈ σ.handled, m ∈ g.seenM := by
  have hq : QInv _ _ _ _ _ _ := hi.c01.qc
  rw [← hi.handledEq]; exact hq.seenh

/-- An accepted stop request keeps waiting in the mailbox as long as the loop takes entries: one that was
    waiting still does, `stopReq _ true` and `ctxStop true` have just put one there, and a `halt` that
    returned Ok has seen the latch fired, so the loop has left. -/
theorem accepted_step {w s s' l} {ops : List (Nat × OpKind)} (hops : OpsT s ops) (hlp : LatchPast s)
    (hs : step w s l = some s') (hal' : loopAlive s'.phase = true)
    (hacc : hasStop s.chan.queue = true ∨ (∃ h, l = .stopReq h true) ∨ l = .ctxStop true ∨
      (∃ o k, l = .ret o .ok ∧ lookup o ops = some k ∧ haltKind k = true)) :
    hasStop s'.chan.queue = true := by
  rcases hacc with h | ⟨h0, rfl⟩ | rfl | ⟨o, k, rfl, hlk, hk⟩
  · exact queue_stop_mono (hal' ▸ step_qstep hs) h
  · obtain ⟨-, ⟨-, -, rfl⟩ | ⟨h, -⟩⟩ := stepSignal_cases hs
    · rw [push_chan, Chan.enq_queue, hasStop_snoc, Bool.or_eq_true]; exact .inr rfl
    · cases h
  · obtain ⟨-, ⟨-, -, -, rfl⟩ | ⟨h, -⟩⟩ := stepCtxSignal_cases hs
    · rw [push_chan, Chan.enq_queue, hasStop_snoc, Bool.or_eq_true]; exact .inr rfl
    · cases h
  · exfalso
    obtain ⟨rec, -, hkind, hexp⟩ := hops.ret hs
    obtain rfl := Option.some.inj (hlk.symm.trans hkind)
    have hal := alive_mono hs hal'
    rw [hlp (retExpect_halt_ok hk hexp)] at hal
    cases hal

theorem noLate_step {w c s s' σ σ1 g l} (hi : C04qInv c s σ σ1 g) (hs : step w s l = some s')
    (hg : wfBad g l = false) (hal' : loopAlive s'.phase = true) :
    ∀ m ∈ lateNext σ l, m ∉ ahead s'.chan.queue := by
  intro m hm hma
  have hal := alive_mono hs hal'
  have hlate := lateNext_cases hm
  -- `m` waited ahead of the stop already, or has just been submitted, or the head entry has just become `m`
  rcases queue_mem (hal' ▸ step_qstep hs) hma with hold | ⟨pl, tok, hsd, hpl, hst⟩ | ⟨pl, m', hb, hpl⟩
  · rcases hlate with hl | ⟨o, h, k, rfl, hk, hsa⟩
    · exact hi.noLate hal m hl hold
    · exact begin_fresh hg hk (hi.seenq m hold)
  · rcases hlate with hl | ⟨o, h, k, rfl, hk, hsa⟩
    · exact sends_fresh hg hsd hpl (hi.lateSeen m hl)
    · rw [hi.stopWaits hsa hal] at hst; cases hst
  · cases hpl
    rcases hlate with hl | ⟨o, h, k, rfl, hk, hsa⟩
    · exact binds_fresh hg hb (hi.lateSeen m hl)
    · cases hb

theorem noStop_step {w c s s' σ σ1 g l} (hi : C04qInv c s σ σ1 g) (hs : step w s l = some s')
    (hal' : loopAlive s'.phase = true) (hiss : issuedNext σ.stopIssued l = false) :
    hasStop s'.chan.queue = false := by
  rw [issuedNext_or, Bool.or_eq_false_iff] at hiss
  cases hst : hasStop s'.chan.queue
  · rfl
  · rcases queue_stop_new (step_qstep hs) hst with h | ⟨tok, h⟩
    · rw [hi.noStop (alive_mono hs hal') hiss.1] at h; cases h
    · rw [sends_stop_issued h] at hiss; cases hiss.2

theorem step_leave {w : Wiring} {s s' : AState} {l : Label} (hs : step w s l = some s')
    (ha : loopAlive s.phase = true) (hna : loopAlive s'.phase = false) :
    l.isTau = true ∨ failing s'.phase = true := by
  cases hl : l.isLoop
  · rw [step_phase hs hl, ha] at hna; cases hna
  · cases step_loop hs hl <;> clear hs <;> simp_all [loopAlive, failing, Label.isTau]

theorem leave_cases {w c s s' σ σ1 g l} (hi : C04qInv c s σ σ1 g) (hs : step w s l = some s')
    (hal : loopAlive s.phase = true) (hnal : loopAlive s'.phase = false) :
    off c (next04q c σ l) = true ∨
    (l = .tDeq ∧ ahead s.chan.queue = [] ∧ hasStop s.chan.queue = true) ∨
    (l = .tChanEnd ∧ s.chan.queue = [] ∧ s.sendersAlive w = false) := by
  rcases step_leave hs hal hnal with hex | hfail
  · cases l <;> first | (cases hex; done) | skip
    case tDeq =>
      -- only taking a stop request makes the loop leave
      cases step_loop hs rfl <;> first | (cases hnal; done) | (rw [hal] at hnal; cases hnal) | skip
      rename_i e rest _ hq _ he
      refine .inr (.inl ⟨rfl, ?_, by rw [hq, hasStop_cons, he]; rfl⟩)
      exact List.eq_nil_iff_forall_not_mem.mpr fun m hm => by
        have := (mem_aheadOf_cons.mp (hq ▸ hm)).1
        rw [he] at this; cases this
    case tChanEnd =>
      cases step_loop hs rfl
      rename_i _ hq hsa
      exact .inr (.inr ⟨rfl, hq, hsa⟩)
    case tStreamEnd =>
      cases step_loop hs rfl
      rename_i _ hst he _
      obtain ⟨sd, hf⟩ := hi.fl
      refine .inl (off_mono _ ?_)
      unfold off
      rw [hi.se, ← hf.cfg, hst, he]; exact Bool.or_true _
  · obtain ⟨sd, hf⟩ := flagsq_step w c hi.fl hs
    exact .inl (off_of_failure (hf.fail.trans hfail))

theorem sent_step {w c s s' σ σ1 g l} (hi : C04qInv c s σ σ1 g) (hs : step w s l = some s') :
    ∀ m ∈ sentOkNext σ l, m ∈ handledNext σ.handled l ∨ off c (next04q c σ l) = true ∨
      (loopAlive s'.phase = true ∧ m ∈ ahead s'.chan.queue) := by
  intro m hm
  rcases sentOkNext_cases hm with hold | ⟨o, k, rfl, hlk, hk, hsi⟩
  · rcases hi.sent m hold with h | h | ⟨hal, hma⟩
    · exact .inl (handled_mono _ _ m h)
    · exact .inr (.inl (off_mono _ h))
    · cases hal' : loopAlive s'.phase
      · rcases leave_cases hi hs hal hal' with h | ⟨_, h, _⟩ | ⟨_, h, _⟩
        · exact .inr (.inl h)
        · rw [h] at hma; cases hma
        · rw [h] at hma; cases hma
      · rcases queue_keep (hal' ▸ step_qstep hs) hma with h | rfl
        · exact .inr (.inr ⟨rfl, h⟩)
        · exact .inl (List.mem_cons_self ..)
  · -- a send is acknowledged before any stop request was issued
    have hch : s'.chan = s.chan := (step_chanOf hs).eq rfl rfl
    have hph : s'.phase = s.phase := step_phase hs rfl
    obtain ⟨rec, hrec, hkind, hexp⟩ := hi.ops.ret hs
    obtain rfl := Option.some.inj (hlk.symm.trans hkind)
    obtain ⟨hmsg, hwait⟩ := sendMsg_msg hk
    have hpend := retExpect_send_ok hk hexp
    cases hal : loopAlive s.phase
    · rcases hi.left hal with h | h | hd
      · rw [hsi] at h; cases h
      · exact .inr (.inl (off_mono _ h))
      · rcases hwait with hwait | hhold
        · obtain ⟨e, he⟩ := (hd.no rec hrec).2 hwait
          rw [hpend] at he; cases he
        · have he := (hd.no rec hrec).1 hhold
          rw [hpend] at he; cases he
    · rcases hi.c01.live rec hrec m hmsg with ⟨e, he⟩ | hl | hl | hl
      · rw [hpend] at he; cases he
      · exact .inl (hi.handledEq ▸ hl)
      · exact .inr (.inr ⟨hph ▸ hal, hch ▸ mem_aheadOf_of_no_stop (hi.noStop hal hsi) hl⟩)
      · rcases hi.rx with hd | hrx
        · rw [not_alive_of_done hd] at hal; cases hal
        · rw [hl] at hrx; cases hrx

theorem left_step {w c s s' σ σ1 g l} (hw : WellWired05 w) (hi : C04qInv c s σ σ1 g)
    (hs : step w s l = some s') (hnal : loopAlive s'.phase = false) :
    issuedNext σ.stopIssued l = true ∨ off c (next04q c σ l) = true ∨ Dead05 s' := by
  cases hal : loopAlive s.phase
  · rcases hi.left hal with h | h | h
    · exact .inl (issuedNext_mono _ h)
    · exact .inr (.inl (off_mono _ h))
    · exact .inr (.inr (dead_step hw h hs))
  · rcases leave_cases hi hs hal hnal with h | ⟨_, _, h⟩ | ⟨_, _, h⟩
    · exact .inr (.inl h)
    · refine .inl (issuedNext_mono _ ?_)
      cases hsi : σ.stopIssued
      · rw [hi.noStop hal hsi] at h; cases h
      · rfl
    · exact .inr (.inr (dead_step hw (dead_of_not_alive hw h) hs))

theorem answered_handled {s σ1 g} (hi : C01Inv s σ1 g) {rec : OpRec} (hrec : rec ∈ s.ops) {rep : Reply}
    (hst : rec.st = .answered rep) {m : Nat} (hm : rec.kind.msg? = some m) : m ∈ σ1.handled := by
  obtain ⟨_, h2⟩ := hi.ans.ans rec hrec rep hst m hm
  apply Classical.byContradiction
  intro hn
  rw [hi.ans.dkeys m hn] at h2; simp at h2

theorem inv_bad {w c s s' σ σ1 g l} (hi : C04qInv c s σ σ1 g) (hs : step w s l = some s') :
    bad04q c σ l = false := by
  cases l <;> try rfl
  case ret o r =>
    simp only [bad04q]
    cases hlk : lookup o σ.ops with
    | none => rfl
    | some k =>
      cases hk : callMsg? k with
      | none => simp [hk]
      | some m =>
        simp only [Option.bind_some, hk]
        cases hlate : σ.late.contains m
        · rfl
        · cases hr : r.isErr
          · -- a call that returns a value was answered, so its message was handled, so it is not late
            exfalso
            obtain ⟨rec, hrec, hkind, hexp⟩ := hi.ops.ret hs
            obtain rfl := Option.some.inj (hlk.symm.trans hkind)
            obtain ⟨rep, hst⟩ := retExpect_call_val hk hexp hr
            have hh := answered_handled hi.c01 hrec hst (callMsg_msg hk)
            exact hi.notLate m (hi.handledEq ▸ hh) (by simpa using hlate)
          · rfl
  case cbBegin cb =>
    cases cb <;> try rfl
    rename_i m
    simp only [bad04q]
    cases hlate : σ.late.contains m
    · rfl
    · -- the message handled is the head of the mailbox, ahead of every stop request
      exfalso
      cases step_loop hs rfl
      rename_i slot tok rest hp _ hq
      exact hi.noLate (by rw [hp]; rfl) m (by simpa using hlate)
        (hq ▸ mem_aheadOf_cons.mpr ⟨rfl, .inl rfl⟩)
  case quiescent pend =>
    simp only [bad04q]
    cases hgd : guard04q c σ
    · rfl
    · obtain ⟨hsa, hoff⟩ := guard_not_off hgd
      obtain ⟨hquiet, -, -, -⟩ := stepQuiescent_cases hs
      -- a quiet actor is done, or idle on an empty mailbox; the latter cannot be: the accepted stop still waits
      have hdone : s.isDone = true := by
        unfold quiet at hquiet
        simp only [Bool.and_eq_true] at hquiet
        have hph := hquiet.1.1
        cases hp : s.phase <;> simp only [hp] at hph <;> first | (unfold isDone; rw [hp]; done) | (cases hph; done) | skip
        have hst := hi.stopWaits hsa (by rw [hp]; rfl)
        simp only [Bool.and_eq_true, List.isEmpty_iff] at hph
        rw [hph.1.1] at hst; cases hst
      have hall : σ.sentOk.all (fun m => σ.handled.contains m) = true := by
        rw [List.all_eq_true]
        intro m hm
        rcases hi.sent m hm with h | h | ⟨h, _⟩
        · simpa using h
        · rw [hoff] at h; cases h
        · rw [not_alive_of_done hdone] at h; cases h
      rw [hall, hi.term, hdone]; rfl

theorem c04q_step (w : Wiring) (hw : WellWired05 w) (c : MonCtx)
    {s s' : AState} {σ : C04qSt} {σ1 : C01St} {g : Wf01St} {l : Label} (hi : C04qInv c s σ σ1 g)
    (hs : step w s l = some s') (hg : wfBad g l = false) :
    bad04q c σ l = false ∧ C04qInv c s' (next04q c σ l) (next01 σ1 l) (wfNext g l) := by
  have hbad := inv_bad hi hs
  obtain ⟨-, hc01'⟩ := c01_step w hi.c01 hs hg
  obtain ⟨hd1, hd2⟩ := step_isDone w hs
  refine ⟨hbad, ?_⟩
  refine
    { c01 := hc01'
      handledEq := by simp only [next01, next04q]; rw [hi.handledEq]
      ops := opsT_step hi.ops hs
      fl := flagsq_step w c hi.fl hs
      term := ?_
      lp := latchPast_step hs hi.lp
      rx := rxInv_step hs hi.rx
      se := ?_
      lateSeen := ?_
      notLate := ?_
      noLate := fun hal' => noLate_step hi hs hg hal'
      stopWaits := fun hacc hal' => accepted_step hi.ops hi.lp hs hal'
        ((acceptedNext_cases hacc).imp_left fun h => hi.stopWaits h (alive_mono hs hal'))
      noStop := fun hal' hiss => noStop_step hi hs hal' hiss
      sent := sent_step hi hs
      left := fun hnal => left_step hw hi hs hnal }
  ·
    show (if l.terminates then true else σ.terminated) = s'.isDone
    cases ht : l.terminates
    · exact hi.term.trans (hd2 ht).symm
    · exact (hd1 ht).symm
  ·
    simp only [next04q]
    rw [step_streamEnded hs, ← hi.se]
    cases l <;> first | exact (Bool.or_false _).symm | exact (Bool.or_true _).symm
  · intro m hm
    rcases lateNext_cases hm with h | ⟨o, h, k, rfl, hk, _⟩
    · exact wf_seenM_mono g l m (hi.lateSeen m h)
    · simp [wfNext, hk]
  ·
    intro m hm hlate
    rcases handledNext_cases hm with hm0 | rfl
    · rcases lateNext_cases hlate with h | ⟨o, h, k, rfl, hk, _⟩
      · exact hi.notLate m hm0 h
      · exact begin_fresh hg hk (hi.seenh m hm0)
    · -- the monitor has just checked that the message whose handler begins is not late
      have hc : σ.late.contains m = false := hbad
      have hin : m ∈ σ.late := hlate
      rw [List.contains_iff_mem.mpr hin] at hc
      cases hc

theorem c04q_init (c : MonCtx) :
    C04qInv c (AState.init c.cfg c.h0 c.k0) (monC04q c).init (monC01 c).init monWf01.init :=
  { c01 := c01_init c
    handledEq := rfl
    ops := fun _ h => nomatch h
    fl := ⟨false, rfl, rfl, fun h => nomatch h⟩
    term := rfl
    lp := latchPast_init _ _ _
    rx := rxInv_init _ _ _
    se := rfl
    lateSeen := fun _ h => nomatch h
    notLate := fun _ h => nomatch h
    noLate := fun _ _ h => nomatch h
    stopWaits := fun h => nomatch h
    noStop := fun _ _ => rfl
    sent := fun _ h => nomatch h
    left := fun h => nomatch h }

end Hannibal
