import Hannibal.Model.Sys
import Hannibal.Proofs.Handles
/-
  Systems of actors: bookkeeping lemmas (`get` / `set` / `applyTo`, dropping and broadcasting in closed form), what
  a single-actor step may do to a `Sender` handle that a parent owns, and what each system label does.
-/
namespace Hannibal
open AState

namespace Sys

theorem get_set (S : Sys) (a a' : Nat) (s : AState) :
    (S.set a s).get a' = if a' = a then (S.get a).map (fun _ => s) else S.get a' := by
  unfold Sys.get Sys.set
  induction S.actors with
  | nil => simp
  | cons p ps ih =>
    simp only [List.map_cons, List.find?_cons]
    by_cases hp : p.1 = a
    · by_cases ha : a' = a
      · subst ha; simp [hp]
      · have : (a == a') = false := by simp; exact fun e => ha e.symm
        simp only [hp, beq_self_eq_true, if_true, this, ha, if_false] at ih ⊢
        exact ih
    · have hb : (p.1 == a) = false := by simp [hp]
      simp only [hb]
      by_cases hq : p.1 = a'
      · have : a' ≠ a := fun e => hp (hq.trans e)
        simp [hq, this]
      · have h2 : (p.1 == a') = false := by simp [hq]
        simp only [h2, Bool.false_eq_true, if_false]
        exact ih

theorem get_applyTo (S : Sys) (f : Nat → AState → AState) (a : Nat) :
    (S.applyTo f).get a = (S.get a).map (f a) := by
  unfold Sys.get Sys.applyTo
  induction S.actors with
  | nil => simp
  | cons p ps ih =>
    simp only [List.map_cons, List.find?_cons]
    by_cases hp : p.1 = a
    · simp [hp]
    · have hb : (p.1 == a) = false := by simp [hp]
      simp only [hb]
      exact ih

theorem get_append_new (S : Sys) (a a' : Nat) (s : AState) (h : S.get a = none) :
    ({ S with actors := S.actors ++ [(a, s)] } : Sys).get a' = if a' = a then some s else S.get a' := by
  unfold Sys.get at *
  simp only [List.find?_append]
  by_cases ha : a' = a
  · subst ha
    have : S.actors.find? (fun p => p.1 == a') = none := by
      cases hf : S.actors.find? (fun p => p.1 == a') with
      | none => rfl
      | some x => simp [hf] at h
    simp [this]
  · have : (a == a') = false := by simp; exact fun e => ha e.symm
    simp only [ha, if_false]
    cases hf : S.actors.find? (fun p => p.1 == a') with
    | none => simp [this]
    | some x => simp

end Sys

theorem get_release (S : Sys) (p a : Nat) :
    (S.release p).get a = (S.get a).map (Sys.dropAll (S.heldBy p a)) :=
  Sys.get_applyTo S (fun c sc => Sys.dropAll (S.heldBy p c) sc) a

theorem handleKind_append_old {s : AState} {h : Nat} {k : HKind} (hk : s.handleKind h = some k) (e : Nat × HKind) :
    ({ s with handles := s.handles ++ [e] } : AState).handleKind h = some k := by
  unfold handleKind at *
  simp only [List.find?_append]
  cases hf : s.handles.find? (fun p => p.1 == h) with
  | none => simp [hf] at hk
  | some x => simpa [hf] using hk

theorem handleKind_filter (s : AState) (q : Nat → Bool) (h : Nat) :
    ({ s with handles := s.handles.filter (fun p => q p.1) } : AState).handleKind h =
      if q h then s.handleKind h else none := by
  unfold handleKind
  simp only
  induction s.handles with
  | nil => split <;> rfl
  | cons p ps ih =>
    simp only [List.filter_cons]
    by_cases hp : p.1 = h
    · subst hp
      cases hq : q p.1
      · simp only [hq, Bool.false_eq_true, if_false] at ih ⊢; exact ih
      · simp
    · have hb : (p.1 == h) = false := by simp [hp]
      cases hq : q p.1
      · simp only [Bool.false_eq_true, if_false, List.find?_cons, hb]; exact ih
      · simp only [if_true, List.find?_cons, hb]; exact ih

theorem handleKind_remove_ne (s : AState) {h h' : Nat} (hne : h' ≠ h) :
    (s.removeHandle h').handleKind h = s.handleKind h :=
  (handleKind_filter s (· != h') h).trans (by simp [Ne.symm hne])

theorem handleKind_remove_self (s : AState) (h : Nat) : (s.removeHandle h).handleKind h = none :=
  (handleKind_filter s (· != h) h).trans (by simp)

theorem dropAll_eq (hs : List Nat) (s : AState) :
    Sys.dropAll hs s = { s with handles := s.handles.filter (fun p => !hs.contains p.1) } := by
  induction hs generalizing s with
  | nil => exact (by rw [List.filter_eq_self.mpr fun _ _ => by simp] :
      s = { s with handles := s.handles.filter (fun p => !([] : List Nat).contains p.1) })
  | cons x xs ih =>
    have one : (s.stepDrop x).getD s = { s with handles := s.handles.filter (fun p => p.1 != x) } := by
      unfold stepDrop; split
      · rfl
      · rename_i hk
        have hno : ∀ k, (x, k) ∉ s.handles := by simpa [handleKind] using hk
        have : s.handles.filter (fun p => p.1 != x) = s.handles :=
          List.filter_eq_self.mpr fun p hp => by
            simp only [bne_iff_ne, ne_eq]; rintro rfl; exact hno p.2 hp
        simp [this]
    have := ih ((s.stepDrop x).getD s)
    simp only [Sys.dropAll, List.foldl_cons] at this ⊢
    rw [this, one]
    simp only [List.filter_filter, List.contains_cons, Bool.not_or, bne]
    congr 2
    funext p
    rw [Bool.and_comm]

theorem dropAll_handleKind (hs : List Nat) (s : AState) (h : Nat) :
    (Sys.dropAll hs s).handleKind h = if hs.contains h then none else s.handleKind h := by
  rw [dropAll_eq]
  exact (handleKind_filter s (fun x => !hs.contains x) h).trans (by cases hs.contains h <;> rfl)

theorem dropAll_ops (hs : List Nat) (s : AState) : (Sys.dropAll hs s).ops = s.ops := by rw [dropAll_eq]
theorem dropAll_phase (hs : List Nat) (s : AState) : (Sys.dropAll hs s).phase = s.phase := by rw [dropAll_eq]
theorem dropAll_chan (hs : List Nat) (s : AState) : (Sys.dropAll hs s).chan = s.chan := by rw [dropAll_eq]

theorem pushAll_shape (b : Nat) : ∀ (n : Nat) (s : AState),
    ∃ C, Sys.pushAll b n s = { s with chan := C } ∧ C.rx = s.chan.rx ∧
      C.queue = s.chan.queue ++ (if s.chan.rx then List.replicate n { pl := .ext b, tok := .stale } else [])
  | 0, s => ⟨s.chan, rfl, rfl, by split <;> simp⟩
  | n + 1, s => by
    cases hrx : s.chan.rx
    · have h1 : (s.stepExtPush b).getD s = s := by unfold stepExtPush; simp [hrx]
      obtain ⟨C, e, hr, hq⟩ := pushAll_shape b n s
      exact ⟨C, by rw [Sys.pushAll, h1, e], hr.trans hrx, by simpa [hrx] using hq⟩
    · have h1 : (s.stepExtPush b).getD s = { s with chan := s.chan.enq { pl := .ext b, tok := .stale } } := by
        unfold stepExtPush; simp [hrx, push]
      obtain ⟨C, e, hr, hq⟩ := pushAll_shape b n ((s.stepExtPush b).getD s)
      rw [h1] at e hr hq
      refine ⟨C, by rw [Sys.pushAll, h1, e], by simpa [hrx] using hr, ?_⟩
      simpa [hrx, List.replicate_succ] using hq

def NoConsumer (s : AState) (h : Nat) : Prop := ∀ r ∈ s.ops, r.h = h → consumesHandle r.kind = false

theorem retEffect_handleKind (s : AState) (r : OpRec) (h : Nat) :
    (s.retEffect r).handleKind h =
      (if consumesHandle r.kind then (s.removeOp r.o).removeHandle r.h else s).handleKind h := by
  unfold retEffect; simp only
  split <;> split <;> split <;> rfl

theorem step_keeps_sender {w : Wiring} {s s' : AState} {l : Label} {h : Nat} (hs : step w s l = some s')
    (hk : s.handleKind h = some .sender) (hn : NoConsumer s h) (hl : l ≠ .drop h) :
    s'.handleKind h = some .sender ∧ NoConsumer s' h := by
  -- an operation that takes its handle along when it returns or is dropped is not one on `h`
  have consumed : ∀ {o rec}, s.findOp o = some rec → consumesHandle rec.kind = true →
      ((s.removeOp rec.o).removeHandle rec.h).handleKind h = some .sender := by
    intro o rec hfind hc
    have hne : rec.h ≠ h := fun e => by rw [hn rec (findOp_some_mem hfind).1 e] at hc; cases hc
    exact (handleKind_remove_ne (s.removeOp rec.o) hne).trans hk
  constructor
  · by_cases ht : l.touchesHandles = true
    · cases l <;> first | (cases ht; done) | skip
      all_goals simp only [step] at hs
      case mk h0 h' k' => obtain ⟨k, -, -, -, rfl⟩ := stepMk_cases hs; exact handleKind_append_old hk _
      case upgrade h0 h' =>
        obtain ⟨k, ks, -, -, ⟨n, -, -, -, rfl⟩ | ⟨-, -, rfl⟩⟩ := stepUpgrade_cases hs
        · exact handleKind_append_old hk _
        · exact hk
      case detach h0 h' =>
        obtain ⟨ho, -, rfl⟩ := stepDetach_cases hs
        have hne : h0 ≠ h := by rintro rfl; rw [hk] at ho; cases ho
        exact handleKind_append_old (s := s.removeHandle h0) ((handleKind_remove_ne s hne).trans hk) _
      case drop h0 =>
        obtain ⟨-, rfl⟩ := stepDrop_cases hs
        exact (handleKind_remove_ne s (fun e => hl (congrArg Label.drop e))).trans hk
      case ctxWeak k0 h0 =>
        obtain ⟨-, ⟨n, -, -, -, -, rfl⟩ | ⟨-, -, -, rfl⟩⟩ := stepCtxWeak_cases hs
        · exact handleKind_append_old hk _
        · exact hk
      case ret o r =>
        obtain ⟨rec, hfind, -, rfl⟩ := stepRet_cases hs
        rw [retEffect_handleKind]
        split
        · exact consumed hfind ‹_›
        · exact hk
      case cdrop o =>
        obtain ⟨rec, hfind, rfl⟩ := stepCdrop_cases hs
        split
        · exact (findOp_some_mem hfind).2 ▸ consumed hfind ‹_›
        · exact hk
    · have := step_handles_same hs (by simpa using ht)
      unfold handleKind at *; rw [this]; exact hk
  · -- no consumer appears: `begin … halt/consume` needs an addr / owning handle
    by_cases hedge : l.isOpEdge = true
    · cases l <;> first | (cases hedge; done) | skip
      all_goals simp only [step] at hs
      case begin o h0 k =>
        obtain ⟨_, st, hops, -⟩ := stepBegin_ops hs
        intro r hr hrh
        rw [hops] at hr
        rcases List.mem_append.mp hr with hr | hr
        · exact hn r hr hrh
        · obtain rfl := List.mem_singleton.mp hr
          obtain rfl : h0 = h := hrh
          obtain ⟨hk0, hk1, hok, -⟩ := stepBegin_cases hs
          rw [hk] at hk1; cases hk1
          cases k <;> first | rfl | cases hok
      case ret o r0 =>
        obtain ⟨rec, _, _, hops, _⟩ := stepRet_ops hs
        intro r hr hrh
        rw [hops] at hr
        exact hn r (List.mem_filter.mp hr).1 hrh
      case cdrop o =>
        have hops := stepCdrop_ops hs
        intro r hr hrh
        rw [hops] at hr
        exact hn r (List.mem_filter.mp hr).1 hrh
    · obtain ⟨f, hf, pf⟩ := step_ops hs (by simpa using hedge)
      intro r' hr' hrh
      rw [hf] at hr'
      obtain ⟨r, hr, rfl⟩ := List.mem_map.mp hr'
      rw [pf.kind]; rw [pf.h] at hrh
      exact hn r hr hrh

variable {w : Wiring} {S S' : Sys}

theorem sstep_spawn {a cfg h0 k0} (hs : sstep w S (.spawn a cfg h0 k0) = some S') :
    S.get a = none ∧ S' = { S with actors := S.actors ++ [(a, AState.init cfg h0 k0)] } := by
  simp only [sstep] at hs
  split at hs
  · cases hs
  · rename_i h; exact ⟨by simpa using h, (Option.some.inj hs).symm⟩

theorem sstep_act {a l} (hs : sstep w S (.act a l) = some S') :
    ∃ s s', S.get a = some s ∧ S.clientOk a l = true ∧ step w s l = some s' ∧
      S' = if l.endsTask then (S.set a s').release a else S.set a s' := by
  simp only [sstep] at hs
  split at hs
  · rename_i s hg
    split at hs
    · cases hs
    · rename_i hc
      split at hs
      · rename_i s' hst; exact ⟨s, s', hg, by simpa using hc, hst, (Option.some.inj hs).symm⟩
      · cases hs
  · cases hs

theorem sstep_addChild {p ty c h} (hs : sstep w S (.addChild p ty c h) = some S') :
    ∃ sp sc, S.get p = some sp ∧ S.get c = some sc ∧ sp.inCallback = true ∧ sc.handleKind h = some .sender ∧
      S.owned c h = false ∧ NoConsumer sc h ∧ S' = { S with kids := S.kids ++ [{ p, ty, c, h }] } := by
  simp only [sstep] at hs
  split at hs
  · rename_i sp sc hgp hgc
    split at hs
    · rename_i hc
      simp only [Bool.and_eq_true, beq_iff_eq, Bool.not_eq_true', List.any_eq_false, not_and,
        Bool.not_eq_true] at hc
      exact ⟨sp, sc, hgp, hgc, hc.1.1.1, hc.1.1.2, hc.1.2, fun r hr e => hc.2 r hr e, (Option.some.inj hs).symm⟩
    · cases hs
  · cases hs

theorem sstep_bcast {p ty b} (hs : sstep w S (.bcast p ty b) = some S') :
    ∃ sp, S.get p = some sp ∧ sp.inCallback = true ∧ S' = S.broadcast p ty b := by
  simp only [sstep] at hs
  split at hs
  · rename_i sp hgp
    split at hs
    · rename_i hc; exact ⟨sp, hgp, hc, (Option.some.inj hs).symm⟩
    · cases hs
  · cases hs

def nextKids (kids : List Kid) : SLabel → List Kid
  | .addChild p ty c h => kids ++ [{ p, ty, c, h }]
  | .act a' l' => if l'.endsTask then kids.filter (fun k => k.p != a') else kids
  | _ => kids

theorem sstep_kids {l : SLabel} (hs : sstep w S l = some S') : S'.kids = nextKids S.kids l := by
  cases l with
  | spawn a cfg h0 k0 => obtain ⟨-, rfl⟩ := sstep_spawn hs; rfl
  | act a l => obtain ⟨s, s', -, -, -, rfl⟩ := sstep_act hs; simp only [nextKids]; split <;> rfl
  | addChild p ty c h => obtain ⟨sp, sc, -, -, -, -, -, -, rfl⟩ := sstep_addChild hs; rfl
  | bcast p ty b => obtain ⟨sp, -, -, rfl⟩ := sstep_bcast hs; rfl

theorem get_act {a l} (hs : sstep w S (.act a l) = some S') :
    ∃ s s', S.get a = some s ∧ S.clientOk a l = true ∧ step w s l = some s' ∧
      ∀ c, S'.get c = (if c = a then some s' else S.get c).map
        (fun sc => if l.endsTask then Sys.dropAll (S.heldBy a c) sc else sc) := by
  obtain ⟨s, s', hg, hcl, hst, rfl⟩ := sstep_act hs
  refine ⟨s, s', hg, hcl, hst, fun c => ?_⟩
  have hmid : (S.set a s').get c = if c = a then some s' else S.get c := by
    rw [Sys.get_set]; split
    · subst c; rw [hg]; rfl
    · rfl
  cases l.endsTask
  · simp [hmid]
  · simp only [if_true]
    rw [get_release, hmid]; rfl

end Hannibal
