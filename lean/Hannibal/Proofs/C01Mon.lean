import Hannibal.Monitor.C01
/-
  `monC01` in guard / update form: `(monC01 c).step σ l = if bad01 σ l then none else some (next01 σ l)`.
-/
namespace Hannibal

def doneRet (isCall : Bool) (r : Res) : Bool :=
  if isCall then (r matches .okReply _) || r == .err .canceled else r == .ok

def openNext (b : Bool) : Label → Bool
  | .cbBegin _ => true
  | .cbEnd _ _ | .cbAbandon _ | .cbPanic _ => false
  | _ => b

def opsNext (ops : List (Nat × (Nat × Bool))) : Label → List (Nat × (Nat × Bool))
  | .begin o _ k =>
    (match k.msg? with
     | some m => (o, (m, k.isCall)) :: ops
     | none => ops)
  | _ => ops

def completedNext (st : C01St) : Label → List Nat
  | .ret o r =>
    (match lookup o st.ops with
     | some (m, isCall) => if doneRet isCall r then m :: st.completed else st.completed
     | none => st.completed)
  | _ => st.completed

def beforeNext (st : C01St) : Label → List (Nat × List Nat)
  | .begin _ _ k =>
    (match k.msg? with
     | some m => (m, st.completed.filter (fun x => !st.handled.contains x)) :: st.before
     | none => st.before)
  | _ => st.before

def handledNext (h : List Nat) : Label → List Nat
  | .cbBegin (.handle m) => m :: h
  | _ => h

theorem handledNext_cases {hd : List Nat} {l : Label} {m : Nat} (h : m ∈ handledNext hd l) :
    m ∈ hd ∨ l = .cbBegin (.handle m) := by
  cases l <;> first | exact .inl h | skip
  rename_i cb
  cases cb <;> first | exact .inl h | skip
  rcases List.mem_cons.mp h with rfl | h
  · exact .inr rfl
  · exact .inl h

def hlog01 (hlog : List Nat) : Label → List Nat
  | .cbBegin (.handle m) => hlog ++ [m]
  | .cbBegin (.item k) => hlog ++ [200000 + k]
  | .vnew _ => []
  | _ => hlog

def digestNext (st : C01St) : Label → List (Nat × List Nat)
  | .cbEnd (.handle m) _ => (m, st.hlog) :: st.digestAt
  | _ => st.digestAt

def next01 (st : C01St) (l : Label) : C01St :=
  { openCb := openNext st.openCb l, ops := opsNext st.ops l, completed := completedNext st l,
    before := beforeNext st l, handled := handledNext st.handled l, hlog := hlog01 st.hlog l,
    digestAt := digestNext st l }

/-- clause (1): callbacks never overlap -/
def badOpen (st : C01St) : Label → Bool
  | .cbBegin _ => st.openCb
  | _ => false

/-- clause (2): at most once -/
def badTwice (st : C01St) : Label → Bool
  | .cbBegin (.handle m) => st.handled.contains m
  | _ => false

/-- clause (3): order -/
def badOrder (st : C01St) : Label → Bool
  | .cbBegin (.handle m) => !((lookup m st.before).getD []).all (fun m1 => st.handled.contains m1)
  | _ => false

/-- clause (4): a reply is the one of its own message and carries the fold at the end of its handler -/
def badReply (st : C01St) : Label → Bool
  | .ret o (.okReply rep) =>
    (match lookup o st.ops with
     | some (m, _) => !(rep.m == m && lookup m st.digestAt == some rep.digest)
     | none => false)
  | _ => false

/-- clause (5): the joined value is the fold -/
def badValue (st : C01St) : Label → Bool
  | .ret o (.some f) =>
    (match lookup o st.ops with
     | some _ => false
     | none => !(f.digest == st.hlog))
  | _ => false

def bad01 (st : C01St) (l : Label) : Bool :=
  badOpen st l || badTwice st l || badOrder st l || badReply st l || badValue st l

theorem monC01_step (c : MonCtx) (st : C01St) (l : Label) :
    (monC01 c).step st l = if bad01 st l then none else some (next01 st l) := by
  cases l
  case begin o h k =>
    dsimp only [monC01, bad01, badOpen, badTwice, badOrder, badReply, badValue, next01, openNext, opsNext,
      completedNext, beforeNext, handledNext, hlog01, digestNext]
    cases k.msg? <;> rfl
  case ret o r =>
    cases r <;>
      simp only [monC01, bad01, badOpen, badTwice, badOrder, badReply, badValue, next01, openNext, opsNext,
        completedNext, beforeNext, handledNext, hlog01, digestNext, doneRet] <;>
      cases lookup o st.ops <;> try rfl
    case some.none f => cases f.digest == st.hlog <;> rfl
    case okReply.some rep p =>
      obtain ⟨m, ic⟩ := p
      cases ic <;> by_cases h : (rep.m == m && lookup m st.digestAt == some rep.digest) = true <;>
        simp only [h] <;> rfl
    case err.some e p => obtain ⟨m, ic⟩ := p; cases ic <;> cases e <;> rfl
    all_goals (rename_i p; obtain ⟨m, ic⟩ := p; cases ic <;> rfl)
  case cbBegin cb =>
    obtain ⟨opn, ops, completed, before, handled, hlog, digestAt⟩ := st
    cases opn <;> cases cb <;> try rfl
    rename_i m
    simp only [monC01, bad01, badOpen, badTwice, badOrder, badReply, badValue, next01, openNext, opsNext,
      completedNext, beforeNext, handledNext, hlog01, digestNext]
    by_cases h1 : handled.contains m = true <;>
      by_cases h2 : (((lookup m before).getD []).all fun m1 => handled.contains m1) = true <;>
      simp only [h1, h2] <;> rfl
  case cbEnd cb ok => cases cb <;> rfl
  all_goals rfl

theorem monWf01_step {g g' : Wf01St} {l : Label} (h : monWf01.step g l = some g') :
    wfBad g l = false ∧ g' = wfNext g l := by
  simp only [monWf01] at h
  split at h
  · cases h
  · next hb => exact ⟨Bool.eq_false_iff.mpr hb, (Option.some.inj h).symm⟩

end Hannibal
