import Hannibal.Monitor.C09
/-
  C09: list lemmas and the ghost enqueue order.

  Ghost: the global enqueue order of the broker's mailbox, `E = H ++ Q` (`H` handled, `Q` still queued).
  An entry remembers the begin-timestamp of its operation (`k`, the key of the operation in the monitor's
  table), its item and the monitor time at which it was enqueued (`te`).
-/
namespace Hannibal

theorem pw_get {α : Type} {R : α → α → Prop} {l : List α} (h : l.Pairwise R) {i j : Nat} {a b : α}
    (hi : l[i]? = some a) (hj : l[j]? = some b) (hij : i < j) : R a b := by
  obtain ⟨hi', rfl⟩ := List.getElem?_eq_some_iff.mp hi
  obtain ⟨hj', rfl⟩ := List.getElem?_eq_some_iff.mp hj
  exact List.pairwise_iff_getElem.mp h i j hi' hj' hij

theorem getElem?_append_some {α : Type} {l l' : List α} {b : α} {j : Nat} (h : l[j]? = some b) :
    (l ++ l')[j]? = some b :=
  (List.getElem?_append_left (List.getElem?_eq_some_iff.mp h).1).trans h

theorem getElem?_snoc {α : Type} {l : List α} {a b : α} {j : Nat} (h : (l ++ [a])[j]? = some b) :
    (j < l.length ∧ l[j]? = some b) ∨ (j = l.length ∧ b = a) := by
  rw [List.getElem?_append] at h
  split at h
  · exact Or.inl ⟨‹_›, h⟩
  · rw [List.getElem?_singleton] at h
    split at h <;> cases h
    exact Or.inr ⟨by omega, rfl⟩

theorem pairwise_move {α : Type} {R : α → α → Prop} {A f1 f2 : List α} {x : α}
    (h : (A ++ (f1 ++ x :: f2)).Pairwise R) (hx : ∀ a ∈ f1, R x a) : ((A ++ [x]) ++ (f1 ++ f2)).Pairwise R := by
  simp only [List.pairwise_append, List.pairwise_cons, List.mem_append, List.mem_cons,
    List.not_mem_nil, List.Pairwise.nil, or_false, false_imp_iff, implies_true, and_true, true_and] at h ⊢
  obtain ⟨hA, ⟨h1, ⟨hx2, h2⟩, h12⟩, hcross⟩ := h
  refine ⟨⟨hA, fun a ha b hb => hb ▸ hcross a ha _ (.inr (.inl rfl))⟩,
    ⟨h1, h2, fun a ha b hb => h12 a ha b (.inr hb)⟩, ?_⟩
  rintro a (ha | rfl) b (hb | hb)
  · exact hcross a ha b (.inl hb)
  · exact hcross a ha b (.inr (.inr hb))
  · exact hx b hb
  · exact hx2 b hb

theorem idxOf_get {l : List (Nat × Nat)} {x : Nat × Nat} {i : Nat} (h : idxOf l x = some i) : l[i]? = some x := by
  unfold idxOf at h
  simp only at h
  split at h <;> cases h
  rename_i hlt
  exact (List.getElem?_eq_getElem hlt).trans (congrArg some (eq_of_beq (List.findIdx_getElem (w := hlt))))

structure GE where
  k : Nat
  it : BItem
  te : Nat

theorem key_inj {E : List GE} (h : E.Pairwise (fun a b => a.k ≠ b.k)) {i j : Nat} {a b : GE}
    (hi : E[i]? = some a) (hj : E[j]? = some b) (hk : a.k = b.k) : i = j := by
  rcases Nat.lt_trichotomy i j with hlt | heq | hgt
  · exact absurd hk (pw_get h hi hj hlt)
  · exact heq
  · exact absurd hk.symm (pw_get h hj hi hgt)

theorem te_mono {E : List GE} (h : E.Pairwise (fun a b => a.te ≤ b.te)) {i j : Nat} {a b : GE}
    (hi : E[i]? = some a) (hj : E[j]? = some b) (hij : i ≤ j) : a.te ≤ b.te := by
  rcases Nat.lt_or_eq_of_le hij with hlt | rfl
  · exact pw_get h hi hj hlt
  · cases hi.symm.trans hj; exact Nat.le_refl _

def pidx (H : List GE) (m : Nat) : Nat := H.findIdx (fun e => e.it == .pub m)

theorem pidx_append {H : List GE} {m : Nat} (l : List GE) (h : pidx H m < H.length) :
    pidx (H ++ l) m = pidx H m := by
  unfold pidx at *
  rw [List.findIdx_append]; simp [h]

theorem pidx_get {H : List GE} {m : Nat} (h : pidx H m < H.length) :
    ∃ e, H[pidx H m]? = some e ∧ e.it = .pub m :=
  ⟨_, List.getElem?_eq_getElem h, eq_of_beq (List.findIdx_getElem (w := h))⟩

theorem pidx_lt {H : List GE} {i : Nat} {e : GE} {m : Nat} (hi : H[i]? = some e) (he : e.it = .pub m) :
    pidx H m < H.length :=
  List.findIdx_lt_length_of_exists ⟨e, List.mem_of_getElem? hi, by simp [he]⟩

def PubU (H : List GE) : Prop :=
  ∀ (i j : Nat) (e e' : GE) (m : Nat), H[i]? = some e → H[j]? = some e' → e.it = .pub m → e'.it = .pub m → i = j

theorem PubU.left {H Q : List GE} (h : PubU (H ++ Q)) : PubU H :=
  fun i j e e' m hi hj => h i j e e' m (getElem?_append_some hi) (getElem?_append_some hj)

theorem pidx_eq {H : List GE} (hu : PubU H) {i : Nat} {e : GE} {m : Nat} (hi : H[i]? = some e)
    (he : e.it = .pub m) : pidx H m = i := by
  obtain ⟨e', h1, h2⟩ := pidx_get (pidx_lt hi he)
  exact hu _ _ _ _ m h1 hi h2 he

end Hannibal
