import Hannibal.Proofs.C02Step
import Hannibal.Monitor.CancelErr
/-
  CancelErr: the per-record coupling `cancOk` (a cancelled record has a reason the monitor has
  seen) and how the monitor's update keeps it.
-/
namespace Hannibal
open AState

@[simp] theorem nextCancelErr_ops (σ : CancelSt) (l : Label) :
    (nextCancelErr σ l).ops = (match l with
      | .begin o _ k => (o, k) :: σ.ops
      | _ => σ.ops) := by
  cases l <;> first | rfl | skip
  all_goals rename_i cb; cases cb <;> rfl

theorem nextCancelErr_term_mono (σ : CancelSt) (l : Label) (h : σ.term = true) :
    (nextCancelErr σ l).term = true := by
  cases l <;> first | exact h | rfl | skip
  all_goals rename_i cb; cases cb <;> exact h

theorem nextCancelErr_term_of (σ : CancelSt) {l : Label} (h : l.terminates = true) :
    (nextCancelErr σ l).term = true := by
  cases l <;> first | rfl | cases h

theorem nextCancelErr_broken_mono (σ : CancelSt) (l : Label) (m : Nat) (h : σ.broken.contains m = true) :
    (nextCancelErr σ l).broken.contains m = true := by
  cases l <;> first | exact h | skip
  all_goals rename_i cb; cases cb <;> first | exact h | simp only [nextCancelErr, List.contains_cons, h, Bool.or_true]

/-- a cancelled record has a reason the monitor has seen; a refused one was not refused with `canceled` -/
def cancOk (σ : CancelSt) (r : OpRec) : Bool :=
  match r.st with
  | .cancelled =>
    σ.term || (match r.kind.msg? with
      | some m => r.kind.isCall && σ.broken.contains m
      | none => false)
  | .failed e => e != .canceled
  | _ => true

theorem cancOk_next {σ : CancelSt} {l : Label} {r : OpRec} (h : cancOk σ r = true) :
    cancOk (nextCancelErr σ l) r = true := by
  unfold cancOk at h ⊢
  split
  · rename_i hst
    simp only [hst] at h
    cases ht : σ.term
    · simp only [ht, Bool.false_or] at h
      cases hm : r.kind.msg? with
      | none => simp [hm] at h
      | some m =>
        simp only [hm, Bool.and_eq_true] at h
        have hb := nextCancelErr_broken_mono σ l m h.2
        simp only [h.1, hb, Bool.and_self, Bool.or_true]
    · simp [nextCancelErr_term_mono σ l ht]
  · rename_i e hst; simpa [hst] using h
  · rfl

end Hannibal
