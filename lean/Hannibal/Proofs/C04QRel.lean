import Hannibal.Monitor.C01
import Hannibal.Proofs.C04QMon
import Hannibal.Proofs.C04QQueue
/-
  What the well-formedness automaton and `monC04q`'s update say about the labels that move the queue, and the
  membership / monotonicity facts of the monitor's update.
-/
namespace Hannibal
open AState

theorem begin_fresh {g : Wf01St} {o h : Nat} {k : OpKind} {m : Nat} (hg : wfBad g (.begin o h k) = false)
    (hk : k.msg? = some m) : m ∉ g.seenM := by
  simp only [wfBad, Bool.or_eq_false_iff, hk] at hg; simpa using hg.2

theorem sends_fresh {g : Wf01St} {l : Label} {pl : Payload} {tok : Tok} {m : Nat} (hg : wfBad g l = false)
    (hs : Submits l pl tok) (hm : msgNo pl = some m) : m ∉ g.seenM := by
  cases hs with
  | op o h k hk hp => subst hp; exact begin_fresh hg (msgNo_payloadOf o k hk ▸ hm)
  | fire t m' => cases hm; simpa [wfBad] using hg
  | _ => cases hm

theorem binds_fresh {g : Wf01St} {l : Label} {pl : Payload} {m : Nat} (hg : wfBad g l = false) (hb : Binds l pl m) :
    m ∉ g.seenM := by
  cases hb <;> simpa [wfBad] using hg

theorem sends_stop_issued {l : Label} {tok : Tok} (h : Submits l .stop tok) : issuedNext false l = true := by
  cases h with
  | op o h k hk hp => cases k <;> first | rfl | exact absurd rfl hk.1 | exact absurd rfl hk.2 | cases hp
  | _ => rfl

theorem issuedNext_or (b : Bool) (l : Label) : issuedNext b l = (b || issuedNext false l) := by
  cases l <;> simp [issuedNext]

theorem issuedNext_mono {b : Bool} (l : Label) (h : b = true) : issuedNext b l = true := by
  rw [issuedNext_or, h]; rfl

theorem acceptedNext_mono {σ : C04qSt} (l : Label) (h : σ.stopAccepted = true) : acceptedNext σ l = true := by
  cases l <;> simp only [acceptedNext, h, Bool.true_or]
  split <;> rfl

theorem acceptedNext_cases {σ : C04qSt} {l : Label} (h : acceptedNext σ l = true) :
    σ.stopAccepted = true ∨ (∃ h, l = .stopReq h true) ∨ l = .ctxStop true ∨
      (∃ o k, l = .ret o .ok ∧ lookup o σ.ops = some k ∧ haltKind k = true) := by
  cases l <;> simp only [acceptedNext] at h <;> try exact .inl h
  case stopReq h' ok =>
    simp only [Bool.or_eq_true] at h
    rcases h with h | rfl
    · exact .inl h
    · exact .inr (.inl ⟨h', rfl⟩)
  case ctxStop ok =>
    simp only [Bool.or_eq_true] at h
    rcases h with h | rfl
    · exact .inl h
    · exact .inr (.inr (.inl rfl))
  case ret o r =>
    cases hl : lookup o σ.ops with
    | none => simp only [hl] at h; exact .inl h
    | some k =>
      simp only [hl, Bool.or_eq_true, Bool.and_eq_true, beq_iff_eq] at h
      rcases h with h | ⟨hk, rfl⟩
      · exact .inl h
      · exact .inr (.inr (.inr ⟨o, k, rfl, hl, hk⟩))

theorem lateNext_cases {σ : C04qSt} {l : Label} {m : Nat} (h : m ∈ lateNext σ l) :
    m ∈ σ.late ∨ (∃ o h k, l = .begin o h k ∧ k.msg? = some m ∧ σ.stopAccepted = true) := by
  cases l <;> simp only [lateNext] at h <;> try exact .inl h
  case begin o h' k =>
    cases hk : k.msg? with
    | none => simp only [hk] at h; exact .inl h
    | some m0 =>
      simp only [hk] at h
      by_cases hsa : σ.stopAccepted = true
      · rw [if_pos hsa] at h
        rcases List.mem_cons.mp h with rfl | h
        · exact .inr ⟨o, h', k, rfl, hk, hsa⟩
        · exact .inl h
      · rw [if_neg hsa] at h; exact .inl h

theorem lateNext_mono {σ : C04qSt} (l : Label) {m : Nat} (h : m ∈ σ.late) : m ∈ lateNext σ l := by
  cases l <;> simp only [lateNext] <;> try exact h
  split
  · split
    · exact List.mem_cons_of_mem _ h
    · exact h
  · exact h

theorem sentOkNext_cases {σ : C04qSt} {l : Label} {m : Nat} (h : m ∈ sentOkNext σ l) :
    m ∈ σ.sentOk ∨ (∃ o k, l = .ret o .ok ∧ lookup o σ.ops = some k ∧ sendMsg? k = some m ∧
      σ.stopIssued = false) := by
  cases l <;> simp only [sentOkNext] at h <;> try exact .inl h
  case ret o r =>
    cases hl : lookup o σ.ops with
    | none => simp [hl] at h; exact .inl h
    | some k =>
      cases hk : sendMsg? k with
      | none => simp [hl, hk] at h; exact .inl h
      | some m0 =>
        simp only [hl, hk, Option.bind_some] at h
        by_cases hc : (r == .ok && !σ.stopIssued) = true
        · rw [if_pos hc] at h
          simp only [Bool.and_eq_true, beq_iff_eq, Bool.not_eq_true'] at hc
          obtain ⟨rfl, hsi⟩ := hc
          rcases List.mem_cons.mp h with rfl | h
          · exact .inr ⟨o, k, rfl, hl, hk, hsi⟩
          · exact .inl h
        · rw [if_neg hc] at h; exact .inl h

/-- the run cannot be blamed any more: the actor failed, or it is a stream actor whose stream ended -/
def off (c : MonCtx) (σ : C04qSt) : Bool := σ.failure || (c.cfg.stream && σ.streamEnded)

theorem off_mono {c : MonCtx} {σ : C04qSt} (l : Label) (h : off c σ = true) : off c (next04q c σ l) = true := by
  unfold off at *
  simp only [next04q, failureNext, Bool.or_eq_true, Bool.and_eq_true] at h ⊢
  rcases h with h | ⟨h1, h2⟩
  · left; split <;> simp [h]
  · right
    refine ⟨h1, ?_⟩
    cases l <;> simp [streamEndedNext, h2]

theorem off_of_failure {c : MonCtx} {σ : C04qSt} (h : σ.failure = true) : off c σ = true := by
  simp [off, h]

theorem guard_not_off {c : MonCtx} {σ : C04qSt} (h : guard04q c σ = true) :
    σ.stopAccepted = true ∧ off c σ = false := by
  unfold guard04q at h
  unfold off
  simp only [Bool.and_eq_true, Bool.not_eq_true'] at h
  simp [h.1.1, h.1.2, h.2]

end Hannibal
