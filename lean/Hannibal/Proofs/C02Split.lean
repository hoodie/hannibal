import Hannibal.Monitor.C02
/-
  The split of the C02 monitor is exact: the original automaton rejects a trace iff the proved part
  (`monC02`) or the trace-only part (`monC02t`) does.
-/
namespace Hannibal

/-- clause (c) of `monC02orig`: what an operation begun after termination returns -/
def lateOrig (graceful : Bool) (k : OpKind) (r : Res) : Bool :=
  match k with
  | .await => if graceful then r == .ok else r.isErr
  | .join => r == .none || (match r with | .some _ => true | _ => false)
  | _ => r.isErr

/-- the trace-only part of clause (c): a late await after a graceful end that does not return Ok -/
def lateBad (graceful : Bool) (k : OpKind) (r : Res) : Bool :=
  match k with
  | .await => graceful && r != .ok
  | _ => false

theorem lateOrig_split (g : Bool) (k : OpKind) (r : Res) :
    lateOrig g k r = (lateOk g k r && !lateBad g k r) := by
  cases k <;> first | exact (Bool.and_true _).symm | skip
  cases g
  · exact (Bool.and_true _).symm
  · show (r == .ok) = ((r == .ok || r.isErr) && !(true && !(r == .ok)))
    cases r == .ok <;> simp

theorem monC02orig_ret (c : MonCtx) (st : C02St) (o : Nat) (r : Res) :
    (monC02orig c).step st (.ret o r) =
      if st.returned.contains o then none else
        match lookup o st.ops with
        | none => some (next02 st (.ret o r))
        | some (k, late) =>
          if replyOk st.finishedOk k r && (if !late then true else lateOrig st.graceful k r) then
            some (next02 st (.ret o r))
          else none := rfl

theorem bad02_ret (st : C02St) (o : Nat) (r : Res) :
    bad02 st (.ret o r) = (st.returned.contains o ||
      match lookup o st.ops with
      | none => false
      | some (k, late) => !(replyOk st.finishedOk k r && (!late || lateOk st.graceful k r))) := rfl

theorem bad02t_ret (st : C02St) (o : Nat) (r : Res) :
    bad02t st (.ret o r) =
      match lookup o st.ops with
      | none => false
      | some (k, late) => late && lateBad st.graceful k r := by
  show (match lookup o st.ops with
    | some (.await, true) => st.graceful && r != Res.ok
    | _ => false) = _
  cases lookup o st.ops with
  | none => rfl
  | some kl => obtain ⟨k, late⟩ := kl; cases k <;> cases late <;> rfl

theorem accept_split {α} (x : α) (ret late a b t : Bool) :
    (if ret then none else if a && (if !late then true else b && !t) then some x else none) =
      if (ret || !(a && (!late || b))) || (late && t) then none else some x := by
  cases ret <;> cases late <;> cases a <;> cases b <;> cases t <;> rfl

theorem monC02orig_step (c : MonCtx) (st : C02St) (l : Label) :
    (monC02orig c).step st l = if bad02 st l || bad02t st l then none else some (next02 st l) := by
  cases l <;> first | rfl | skip
  case ret o r =>
    rw [monC02orig_ret, bad02_ret, bad02t_ret]
    cases lookup o st.ops with
    | none => cases st.returned.contains o <;> rfl
    | some kl =>
      obtain ⟨k, late⟩ := kl
      dsimp only
      rw [lateOrig_split]
      exact accept_split ..
  case quiescent pend =>
    simp only [monC02orig, bad02, bad02t, pendOk, Bool.or_false]
    cases List.all pend _ <;> rfl
  case cbEnd cb ok => cases cb <;> cases ok <;> rfl

theorem monC02_split_run (c : MonCtx) : ∀ (ls : List Label) (st : C02St),
    ((monC02orig c).run st ls).isSome = (((monC02 c).run st ls).isSome && ((monC02t c).run st ls).isSome)
  | [], st => by simp [Mon.run]
  | l :: ls, st => by
    simp only [Mon.run, monC02orig_step]
    cases h1 : bad02 st l <;> cases h2 : bad02t st l <;> simp [monC02, monC02t, h1, h2]
    · have := monC02_split_run c ls (next02 st l)
      simpa [monC02, monC02t] using this
theorem monC02_split (c : MonCtx) (ls : List Label) :
    (monC02orig c).ok ls = ((monC02 c).ok ls && (monC02t c).ok ls) :=
  monC02_split_run c ls _

end Hannibal
