import Hannibal.Proofs.C05Dead
import Hannibal.Proofs.C03Q
import Hannibal.Proofs.C05QLite
import Hannibal.Props.C13
/-
  C13q: what a stop-like `begin` leaves behind, and why an abandoned callback of a stream-attached actor
  is the drop guard of a cancelled one.
-/
namespace Hannibal
open AState

/-- `halt` / `try_halt` / `consume`: the stop request is in the mailbox, or the receiver is gone, or the weak
    handle found nothing to upgrade to (and then nothing owns a sender any more) -/
theorem stepBegin_stopKind {w : Wiring} (hw : WellWired05 w) {s s' : AState} {o h : Nat} {k : OpKind}
    (hs : stepBegin w s o h k = some s') (hk : isStopKind k = true) :
    0 < cntP isStopP s' ∨ s.chan.rx = false ∨ NoHolder s' := by
  obtain ⟨hk', -, -, -, hc⟩ := stepBegin_cases hs
  have hpl : (plan w hk' o k).pl = some .stop := by cases k <;> first | rfl | cases hk
  rw [hpl] at hc
  rcases hc with ⟨hr, -⟩ | ⟨-, h, -⟩ | ⟨pl, -, h, -, rfl⟩ | ⟨pl, -, -, hrx, -⟩
  · exact .inr (.inr (noHolder_step hw (noHolder_of_reqFail hw hr) (l := .begin o h k) hs))
  · cases h
  · obtain rfl := Option.some.inj h
    exact .inl (by simp [cntP, List.countP_append, isStopP])
  · exact .inr (.inl hrx)

/-- a stream-attached actor's handlers carry no deadline: an abandoned callback is the drop guard of a
    cancelled one -/
theorem abandon_failed {w : Wiring} {s s' : AState} {cb : Cb} {fin stop : Nat}
    (hs : step w s (.cbAbandon cb) = some s') (hph : phaseOk13 fin stop s.phase) : s.phase = .done false := by
  cases step_loop hs rfl with
  | dropGuard _ hp _ => exact hp
  | timeout _ _ _ hp _ _ | timeoutFatal _ _ _ hp _ _ => rw [hp] at hph; cases hph.1

end Hannibal
