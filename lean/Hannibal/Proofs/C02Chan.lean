import Hannibal.Proofs.Handles
/-
  C02: the mailbox once the actor is done.
-/
namespace Hannibal
open AState

theorem mem_tail_cons {α} {a x : α} {l r : List α} (h : l = x :: r) (ha : a ∈ l.tail) : a ∈ l := by
  subst h; simp at ha; simp [ha]

theorem ChanStep.closed {c c'} (h : ChanStep c c') (hc : c.rx = false ∧ c.queue = []) :
    c'.rx = false ∧ c'.queue = [] := by
  cases h with
  | same h => rw [h]; exact hc
  | enq e hrx h => simp [hc.1] at hrx
  | deq hrx h => simp [hc.1] at hrx
  | drop h => rw [h]; simp [Chan.dropRx]
  | rename pl pl' tok rest hq h => simp [hc.2] at hq

end Hannibal
