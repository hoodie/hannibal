import Hannibal.Proofs.C16QActor
import Hannibal.Props.C16
/-
  C16q, system part: the invariant that couples the monitor's `owed` table with the mailboxes of the actors
  that were never cut, and its preservation by every system step.
-/
namespace Hannibal
namespace C16Q
open AState

def bad16q (σ : C16qSt) : SLabel → Bool
  | .act a (.quiescent _) => !σ.stopped.contains a && σ.base.issued.any (fun b => σ.base.owed b a > 0)
  | _ => false

def next16q (σ : C16qSt) (l : SLabel) : C16qSt :=
  { base := next16 σ.base l
    stopped := (match l with
      | .act a l' => if cuts l' then a :: σ.stopped else σ.stopped
      | _ => σ.stopped) }

/-- the monitor branches on the cut around the whole state, `next16q` inside the `stopped` field -/
theorem some_stopped_ite (c : Bool) (base : C16St) (a : Nat) (stopped : List Nat) :
    (if c then some ({ base, stopped := a :: stopped } : C16qSt) else some { base, stopped }) =
      some { base, stopped := if c then a :: stopped else stopped } := by
  cases c <;> rfl

theorem monC16q_step (σ : C16qSt) (l : SLabel) :
    monC16q.step σ l = if bad16q σ l then none else some (next16q σ l) := by
  cases l with
  | spawn | addChild | bcast => rfl
  | act a l => cases l <;> first | exact some_stopped_ite .. | rfl

theorem owed_act (σ : C16St) (a : Nat) (l : Label) (b c : Nat) :
    (next16 σ (.act a l)).owed b c = σ.owed b c - (if c = a then takes b l else 0) := by
  by_cases hx : ∃ b' m, l = .extBegin b' m
  · obtain ⟨b', m, rfl⟩ := hx
    simp only [next16, takes]
    by_cases hc : c = a
    · subst hc
      by_cases hb : b = b'
      · subst hb; simp
      · simp [hb]
    · simp [hc]
  · have hne : ∀ b' m, l ≠ .extBegin b' m := fun b' m e => hx ⟨b', m, e⟩
    have hnext : (next16 σ (.act a l)).owed = σ.owed := by
      cases l <;> first | rfl | exact absurd rfl (hne _ _)
    rw [hnext, takes_zero hne]; simp

theorem regCount_zero {kids : List Kid} {p ty c : Nat} (h : ∀ k ∈ kids, k.c ≠ c) : regCount kids p ty c = 0 := by
  unfold regCount
  have : kids.filter (fun k => k.p == p && k.ty == ty && k.c == c) = [] := by
    apply List.filter_eq_nil_iff.mpr
    intro k hk; simp; intro _ _; exact h k hk
  simp [this]

theorem unc_dropAll (hs : List Nat) {s : AState} (hu : Unc s) : Unc (Sys.dropAll hs s) := by
  rw [dropAll_eq]
  rcases hu with hc | hg
  · exact .inl ⟨hc.ph, hc.rx, hc.nostop, hc.norst, hc.strm⟩
  · exact .inr ⟨⟨fun p hp => hg.dead.nh p (List.mem_filter.mp hp).1, hg.dead.no, hg.dead.nt⟩, hg.none⟩

theorem calm_pushAll (b n : Nat) {s : AState} (hc : Calm s) :
    Calm (Sys.pushAll b n s) ∧ ∀ b', extCnt b' (Sys.pushAll b n s) = extCnt b' s + (if b' = b then n else 0) := by
  refine ⟨⟨?_, ?_, ?_, ?_, ?_⟩, fun b' => ?_⟩
  · obtain ⟨C, e, -⟩ := pushAll_shape b n s; rw [e]; exact hc.ph
  · obtain ⟨C, e, hr, -⟩ := pushAll_shape b n s; rw [e]; exact hr.trans hc.rx
  · rw [pushAll_cntP, hc.nostop]; simp [isStopP]
  · rw [pushAll_cntP, hc.norst]; simp [isRestartP]
  · obtain ⟨C, e, -⟩ := pushAll_shape b n s; rw [e]; exact hc.strm
  · unfold extCnt
    rw [pushAll_cntP]
    by_cases hb : b' = b
    · subst hb; simp [isExtP, hc.rx]
    · have : (b == b') = false := by simp; exact fun e => hb e.symm
      simp [isExtP, hb, this]

theorem no_kid_of_dead {S : Sys} (hi : SInv S) {c : Nat} {sc : AState} (hg : S.get c = some sc) (hd : Dead05 sc) :
    ∀ k ∈ S.kids, k.c ≠ c := by
  intro k hk e
  obtain ⟨sc', hg', h1, _⟩ := hi.held k hk
  rw [e, hg] at hg'; simp at hg'; subst hg'
  obtain ⟨p, hp, hp2⟩ := handleKind_mem h1
  have := hd.nh p hp
  rw [hp2] at this; simp [HKind.strong] at this

theorem no_kid_of_absent {S : Sys} (hi : SInv S) {c : Nat} (hg : S.get c = none) : ∀ k ∈ S.kids, k.c ≠ c := by
  intro k hk e
  obtain ⟨sc', hg', _⟩ := hi.held k hk
  rw [e, hg] at hg'; simp at hg'

structure QInv (S : Sys) (σ : C16qSt) : Prop where
  absent : ∀ c, S.get c = none → ∀ b, σ.base.owed b c = 0
  live : ∀ c sc, S.get c = some sc → σ.stopped.contains c = false →
    Unc sc ∧ ∀ b, σ.base.owed b c = extCnt b sc

theorem qinv_step {w : Wiring} (hw : WellWired05 w) {S S' : Sys} {σ : C16qSt} {l : SLabel} (hsi : SInv S)
    (hk : σ.base.kids = S.kids) (hi : QInv S σ) (hs : sstep w S l = some S') :
    bad16q σ l = false ∧ QInv S' (next16q σ l) := by
  cases l with
  | spawn a cfg h0 k0 =>
    obtain ⟨hn, rfl⟩ := sstep_spawn hs
    refine ⟨rfl, fun c hg b => ?_, fun c sc hg hst => ?_⟩
    · rw [Sys.get_append_new S a c _ hn] at hg
      split at hg
      · cases hg
      · exact hi.absent c hg b
    · rw [Sys.get_append_new S a c _ hn] at hg
      split at hg
      · rename_i hc
        obtain rfl := Option.some.inj hg
        exact ⟨unc_init _ _ _, fun b => by rw [extCnt_init, hc]; exact hi.absent a hn b⟩
      · exact hi.live c sc hg hst
  | addChild p ty c h =>
    obtain ⟨sp, sc, -, -, -, -, -, -, rfl⟩ := sstep_addChild hs
    exact ⟨rfl, hi.absent, hi.live⟩
  | bcast p ty b =>
    obtain ⟨sp, -, -, rfl⟩ := sstep_bcast hs
    have howed : ∀ b' c, (next16q σ (.bcast p ty b)).base.owed b' c =
        σ.base.owed b' c + (if b' = b then regCount S.kids p ty c else 0) := by
      intro b' c; simp only [next16q, next16, hk]
    refine ⟨rfl, fun c hg b' => ?_, fun c sc hg hst => ?_⟩ <;>
      (simp only [Sys.broadcast] at hg; rw [Sys.get_applyTo] at hg)
    · cases hgc : S.get c with
      | some sc0 => rw [hgc] at hg; cases hg
      | none => rw [howed, regCount_zero (no_kid_of_absent hsi hgc), hi.absent c hgc b']; simp
    · cases hgc : S.get c with
      | none => rw [hgc] at hg; cases hg
      | some sc0 =>
        rw [hgc] at hg; obtain rfl := Option.some.inj hg
        obtain ⟨hu, ho⟩ := hi.live c sc0 hgc hst
        rcases hu with hc | hgone
        · obtain ⟨h1, h2⟩ := calm_pushAll b (S.kids.filter (fun k => k.p == p && k.ty == ty && k.c == c)).length hc
          exact ⟨.inl h1, fun b' => by rw [howed, h2 b', ho b']; rfl⟩
        · -- nothing is registered for an actor without strong handles: the broadcast passes it by
          have hz := regCount_zero (p := p) (ty := ty) (no_kid_of_dead hsi hgc hgone.dead)
          have hz' : (S.kids.filter (fun k => k.p == p && k.ty == ty && k.c == c)).length = 0 := hz
          rw [hz']
          exact ⟨.inr hgone, fun b' => by rw [howed, hz, ho b']; simp [Sys.pushAll]⟩
  | act a l =>
    obtain ⟨s, s', hg, hcl, hst, hget⟩ := get_act hs
    have hnp := clientOk_not_extPush hcl
    refine ⟨?_, fun c hgc b => ?_, fun c sc hgc hstp => ?_⟩
    · -- the guard: at a quiet point of an actor that was never cut nothing waits, so nothing is owed
      cases l <;> first | rfl | skip
      case quiescent pend =>
        simp only [bad16q]
        cases hc : σ.stopped.contains a
        · obtain ⟨hu, ho⟩ := hi.live a s hg hc
          have hz : σ.base.issued.any (fun b => σ.base.owed b a > 0) = false :=
            List.any_eq_false.mpr fun b _ => by rw [ho b, unc_quiet hu hst b]; simp
          simp [hz]
        · rfl
    · rw [hget c] at hgc
      have hne : c ≠ a := fun e => by rw [if_pos e] at hgc; cases hgc
      rw [if_neg hne] at hgc
      have hgc0 : S.get c = none := by
        cases h : S.get c with
        | none => rfl
        | some sc0 => rw [h] at hgc; cases hgc
      simp only [next16q]
      rw [owed_act, hi.absent c hgc0 b]; simp
    · rw [hget c] at hgc
      -- a release drops handles only: look at the actor right after the step
      obtain ⟨sc0, hg0, rfl⟩ : ∃ sc0, (if c = a then some s' else S.get c) = some sc0 ∧
          sc = (if l.endsTask then Sys.dropAll (S.heldBy a c) sc0 else sc0) := by
        cases hm : (if c = a then some s' else S.get c) with
        | none => rw [hm] at hgc; cases hgc
        | some sc0 => rw [hm] at hgc; exact ⟨sc0, rfl, (Option.some.inj hgc).symm⟩
      suffices h : Unc sc0 ∧ ∀ b, (next16q σ (.act a l)).base.owed b c = extCnt b sc0 by
        split
        · exact ⟨unc_dropAll _ h.1, fun b => by rw [h.2 b, extCnt_dropAll]⟩
        · exact h
      split at hg0
      · rename_i hc
        subst hc
        obtain rfl := Option.some.inj hg0
        have hcut : cuts l = false := by
          cases hcu : cuts l
          · rfl
          · simp [next16q, hcu] at hstp
        have hst0 : σ.stopped.contains c = false := by simpa [next16q, hcut] using hstp
        obtain ⟨hu, ho⟩ := hi.live c s hg hst0
        obtain ⟨hu', hcnt⟩ := unc_step hw hu hst hcut hnp
        exact ⟨hu', fun b => by simp only [next16q]; rw [owed_act, ho b, hcnt b]; simp⟩
      · rename_i hc
        have hst0 : σ.stopped.contains c = false := by
          have hca : (c == a) = false := by simp [hc]
          by_cases hcu : cuts l = true
          · simpa only [next16q, hcu, if_true, List.contains_cons, hca, Bool.false_or] using hstp
          · simpa [next16q, hcu] using hstp
        obtain ⟨hu, ho⟩ := hi.live c sc0 hg0 hst0
        exact ⟨hu, fun b => by simp only [next16q]; rw [owed_act, ho b]; simp [hc]⟩

end C16Q
end Hannibal
