import Hannibal.Proofs.C01Mon
import Hannibal.Proofs.Latch
/-
  C01, the phase-only parts: clause (1) (callbacks never overlap), clause (5) (the fold), and for clause (4) that
  the open handler invocation and its reply slot stay the same across every step other than a `cbBegin`.
-/
namespace Hannibal
open AState

def cbOrDone : Phase → Bool
  | .starting | .handling _ _ _ | .rstStopping | .finishing | .stopping | .done _ => true
  | _ => false

theorem open_step (w : Wiring) {s s' : AState} {σ : C01St} {l : Label}
    (hi : σ.openCb = true → cbOrDone s.phase = true) (hs : step w s l = some s') :
    badOpen σ l = false ∧ (openNext σ.openCb l = true → cbOrDone s'.phase = true) := by
  cases hl : l.isLoop
  · have h1 : badOpen σ l = false := by cases l <;> first | rfl | cases hl
    have h2 : openNext σ.openCb l = σ.openCb := by cases l <;> first | rfl | cases hl
    rw [h1, h2, step_phase hs hl]; exact ⟨rfl, hi⟩
  · cases step_loop hs hl <;> simp_all [badOpen, openNext, cbOrDone]

def resOk (r : Option Final) (log : List Nat) : Bool :=
  match r with
  | none => true
  | some f => f.digest == log

structure Log01 (s : AState) (hlog : List Nat) : Prop where
  log : hlog = s.log
  res : resOk s.result s.log = true
  frozen : s.result.isSome = true → s.isDone = true
  fresh : s.phase = .unstarted → s.log = []

theorem Log01.of_none {s : AState} (hr : s.result = none) (hf : s.phase = .unstarted → s.log = []) :
    Log01 s s.log :=
  ⟨rfl, by rw [hr]; rfl, by rw [hr]; exact nofun, hf⟩

theorem log01_step (w : Wiring) {s s' : AState} {hlog : List Nat} {l : Label}
    (hi : Log01 s hlog) (hs : step w s l = some s') : Log01 s' (hlog01 hlog l) := by
  obtain ⟨rfl, hres, hfr, hfresh⟩ := hi
  cases hl : l.isLoop
  · have h1 : hlog01 s.log l = s.log := by cases l <;> first | rfl | cases hl
    have hd : s'.isDone = s.isDone := by simp only [isDone, step_phase hs hl]
    rw [h1]
    refine ⟨(step_log hs hl).symm, ?_, ?_, by rw [step_phase hs hl, step_log hs hl]; exact hfresh⟩
    all_goals rcases step_result_cases hs hl with h | h <;> rw [h]
    · rwa [step_log hs hl]
    · rfl
    · rwa [hd]
    · exact nofun
  · -- a result is stored when the task ends, and neither it nor the log is touched afterwards: the loop
    -- moves only before that, but for the drop guard of a cancelled callback
    have hnone : s.isDone = false → s.result = none := by
      cases hr : s.result <;> simp_all
    obtain h := step_loop hs hl
    clear hs hl
    cases h
    case doneOk hp => exact ⟨rfl, by simp [finish, resOk], fun _ => rfl, nofun⟩
    case dropGuard cb hp ha => exact ⟨rfl, hres, fun _ => by simp [isDone, hp], fun h => by simp [hp] at h⟩
    case born b hp =>
      have hr := hnone (by simp [isDone, hp])
      exact ⟨(hfresh hp).symm, by simp [hr, resOk], by simp [hr], hfresh⟩
    case panic cb ho => exact .of_none (hnone (openCb_not_done ho)) (by simp)
    case cancel hd => exact .of_none rfl (by simp)
    all_goals exact .of_none (by first | rfl | exact hnone (by simp [isDone, *])) (by first | exact hfresh | simp)

theorem step_handling_same (w : Wiring) {s s' : AState} {l : Label} (hs : step w s l = some s')
    (hl : ∀ cb, l ≠ .cbBegin cb) {cb : Cb} {slot dl : Option Nat}
    (hp : s'.phase = .handling cb slot dl) : s.phase = .handling cb slot dl := by
  cases hlp : l.isLoop
  · rwa [step_phase hs hlp] at hp
  · obtain h := step_loop hs hlp
    clear hs
    cases h <;> first | exact absurd rfl (hl _) | exact hp | simp at hp

end Hannibal
