import Hannibal.Proofs.C07OQueue
import Hannibal.Props.C03
import Hannibal.Proofs.C01Mon
/-
  C07 (order): the coupling between the model and the order half of `monC07o`, and its
  preservation by every step whose label respects the naming discipline `monWf01` (fresh message numbers).
-/
namespace Hannibal
open AState

variable {w : Wiring} {s s' : AState} {l : Label} {σ : C07oSt} {g g' : Wf01St}

/-- a non-restartable spawn is in its first incarnation as soon as it has started -/
def nonInc : Phase → Nat → Bool
  | .unstarted, n => n == 0
  | .exiting _, _ | .done _, _ => true
  | _, n => n == 1

theorem nonInc_step (hs : step w s l = some s') (hrst : RstOk s)
    (hnr : s.cfg.stream = true ∨ s.cfg.strat = .non) (hn : nonInc s.phase σ.inc = true) :
    nonInc s'.phase (next07o σ l).inc = true := by
  cases hl : l.isLoop
  · have : (next07o σ l).inc = σ.inc := by cases l <;> first | rfl | cases hl
    rwa [step_phase hs hl, this]
  · -- no refresh: the phases in which one is in progress are excluded by `RstOk`
    unfold RstOk at hrst
    cases step_loop hs hl <;> simp_all [nonInc, next07o]

structure Ord07 (c : MonCtx) (s : AState) (σ : C07oSt) (g : Wf01St) : Prop where
  cfg : s.cfg = c.cfg
  rst : RstOk s
  ninc : restartable c = false → nonInc s.phase σ.inc = true
  fail : σ.failure = true → alive07 s.phase = false
  q : restartable c = true → alive07 s.phase = true →
    QInv07 σ.expect σ.accepted (σ.inc + pend s.phase) s.pls g.seenM

theorem ord07_init (c : MonCtx) :
    Ord07 c (AState.init c.cfg c.h0 c.k0) (monC07o c).init monWf01.init :=
  ⟨rfl, by simp [RstOk, AState.init], fun _ => rfl, nofun, fun _ _ => ⟨rfl, nofun, nofun⟩⟩

theorem ord07_queue (c : MonCtx) (hcfg : s.cfg = c.cfg) (hr : restartable c = true)
    (hi : QInv07 σ.expect σ.accepted (σ.inc + pend s.phase) s.pls g.seenM)
    (hs : step w s l = some s') (hb : wfBad g l = false) (ha : alive07 s'.phase = true) :
    QInv07 (next07o σ l).expect (next07o σ l).accepted ((next07o σ l).inc + pend s'.phase) s'.pls
      (wfNext g l).seenM := by
  have hch := step_chanOf hs
  cases hl : l.isLoop
  · rw [step_phase hs hl]
    cases l <;> first | (cases hl; done) | skip
    case begin o h k =>
      have hfresh : ∀ m, k.msg? = some m → m ∉ g.seenM := by
        intro m hk; simp [wfBad, hk] at hb; exact hb.2
      dsimp only [next07o, wfNext]
      rcases hch.plain rfl with h | ⟨pl, tok, t, hpl, -, -, h⟩
      · rw [pls_of_chan h]
        cases hk : k.msg? with
        | none => exact hi
        | some m => exact hi.expect (hfresh m hk)
      · rw [pls_enq h]
        cases hpl with | op _ _ _ hk' hp =>
        have hpl := payloadOf_cases07 (o := o) hk'
        subst hp
        cases hk : k.msg? with
        | none =>
          rw [hk] at hpl
          rcases hpl with hpl | hpl <;> rw [hpl] <;> exact hi.snoc (by simp [qOk]) nofun
        | some m =>
          rw [hk] at hpl
          obtain ⟨sl, hpl⟩ := hpl
          rw [hpl]; exact hi.submit (hfresh m hk)
    case stopReq | ctxStop | timerArm | extPush =>
      dsimp only [next07o, wfNext]
      rcases hch.plain rfl with h | ⟨pl, tok, t, hpl, -, -, h⟩
      · rw [pls_of_chan h]; exact hi
      · rw [pls_enq h]; cases hpl <;> exact hi.snoc (by simp [qOk]) nofun
    case restartReq h ok =>
      obtain ⟨-, ⟨rfl, -, rfl⟩ | ⟨rfl, rfl⟩⟩ := stepSignal_cases hs
      · rw [push_pls]; exact hi.snoc (acc' := σ.accepted + 1) (by simp [qOk]) nofun
      · exact hi
    case ctxRestart ok =>
      obtain ⟨-, ⟨rfl, -, -, rfl⟩ | ⟨rfl, -, rfl⟩⟩ := stepCtxSignal_cases hs
      · rw [push_pls]; exact hi.snoc (acc' := σ.accepted + 1) (by simp [qOk]) nofun
      · exact hi
    case fire t m =>
      rcases hch.plain rfl with h | ⟨pl, tok, t, hpl, -, -, h⟩
      · rw [pls_of_chan h]
        cases m
        · exact hi
        · exact hi.mono _
      · rw [pls_enq h]; cases hpl; exact hi.snoc_fresh (by simpa [wfBad] using hb)
    case tickBegin t m =>
      obtain ⟨tok, rest, hq, h⟩ := hch.binds (.tick t m)
      obtain ⟨h1, h2⟩ := pls_rename hq h
      rw [h2]; rw [h1] at hi
      exact hi.rename hi.ok (by simpa [wfBad] using hb)
    case extBegin b m =>
      obtain ⟨tok, rest, hq, h⟩ := hch.binds (.ext b m)
      obtain ⟨h1, h2⟩ := pls_rename hq h
      rw [h2]; rw [h1] at hi
      exact hi.rename hi.ok (by simpa [wfBad] using hb)
    all_goals rw [pls_of_chan (hch.eq rfl rfl)]; exact hi
  · have hσ : (next07o σ l).expect = σ.expect ∧ (next07o σ l).accepted = σ.accepted ∧ wfNext g l = g := by
      cases l <;> first | exact ⟨rfl, rfl, rfl⟩ | cases hl
    rw [hσ.1, hσ.2.1, hσ.2.2]
    have hls := step_loop hs hl
    by_cases h1 : ∃ m, l = .cbBegin (.handle m)
    · -- the head is handled by the running incarnation
      obtain ⟨m, rfl⟩ := h1
      cases hls with | handle m slot tok rest hp hq hrx =>
      rw [pls_deq (s := s) rfl]
      rw [pls_cons hq] at hi ⊢
      rw [hp] at hi
      have := hi.ok
      simp only [qOk, Bool.and_eq_true] at this
      exact hi.tail this.2
    by_cases h2 : l = .tDeq
    · -- a dequeued restart request is served next: one more `started` is owed
      subst h2
      cases hls
      case restartIgnored hn =>
        rw [hcfg] at hn
        simp [restartable, hn] at hr
      case ping e rest o hp hq hrx he =>
        rw [pls_deq (s := s) rfl]
        rw [pls_cons hq, he] at hi ⊢
        exact hi.tail hi.ok
      case stop e rest hp hq hrx he | restartTaken e rest hp hq hrx he _ _ =>
        rw [pls_deq (s := s) rfl]
        rw [pls_cons hq, he] at hi ⊢
        rw [hp] at hi
        exact hi.tail hi.ok
    · obtain ⟨hc, hn⟩ := loopStep_pend hls ha (fun m h => h1 ⟨m, h⟩) h2 σ
      rw [pls_of_chan hc, hn]; exact hi

theorem ord07_step (w : Wiring) (c : MonCtx) (hi : Ord07 c s σ g) (hs : step w s l = some s')
    (hg : monWf01.step g l = some g') : badOrd c σ l = false ∧ Ord07 c s' (next07o σ l) g' := by
  obtain ⟨hb, rfl⟩ := monWf01_step hg
  refine ⟨?_, (step_cfg hs).trans hi.cfg, rstOk_step hs hi.rst, fun hr => nonInc_step hs hi.rst ?_ (hi.ninc hr),
    fun hf => ?_, fun hr ha => ord07_queue c hi.cfg hr (hi.q hr (step_alive07 hs ha)) hs hb ha⟩
  · cases hl : l.isLoop
    · cases l <;> first | rfl | cases hl
    cases step_loop hs hl <;> try rfl
    rename_i m slot tok rest hp hq hrx
    have hf : σ.failure = false := by
      cases hf : σ.failure
      · rfl
      · simpa [hp, alive07] using hi.fail hf
    simp only [badOrd, hf, Bool.false_or]
    cases hlk : lookup m σ.expect with
    | none => rfl
    | some n =>
      cases hr : restartable c
      · simpa [hp, nonInc] using hi.ninc hr
      · have := (hi.q hr (by rw [hp]; rfl)).ok
        simp only [pls, hq, hp, pend, List.map_cons, qOk, hlk, Bool.and_eq_true, beq_iff_eq] at this
        simp [this.1]
  · rw [hi.cfg]
    simp only [restartable, Bool.and_eq_false_iff, Bool.not_eq_false', bne_eq_false_iff_eq] at hr
    exact hr
  · -- a failure ends the loop, and an ended loop stays so
    cases hl : l.isFailure
    · have hf : σ.failure = true := by simpa [next07o, hl] using hf
      cases ha : alive07 s'.phase
      · rfl
      · have := hi.fail hf
        rw [step_alive07 hs ha] at this; cases this
    · exact step_failure hs hl

end Hannibal
