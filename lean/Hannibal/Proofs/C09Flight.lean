import Hannibal.Proofs.C09Inv
/-
  C09: the subscriber table and what is on its way / taken up, relative to the handling order `H`.
-/
namespace Hannibal

/-- the last subscribe / unsubscribe item of `c` in `H` is a subscribe -/
def Subscribed (H : List GE) (c : Nat) : Prop :=
  ∃ (i : Nat) (e : GE), H[i]? = some e ∧ e.it = .sub c ∧
    ∀ (j : Nat) (e' : GE), i < j → H[j]? = some e' → e'.it ≠ .unsub c

theorem subscribed_snoc {H : List GE} {e : GE} {c : Nat} :
    Subscribed (H ++ [e]) c ↔ e.it = .sub c ∨ (e.it ≠ .unsub c ∧ Subscribed H c) := by
  constructor
  · rintro ⟨i, e0, hi, hit, hno⟩
    rcases getElem?_snoc hi with ⟨hlt, hi⟩ | ⟨_, rfl⟩
    · exact Or.inr ⟨hno _ e hlt List.getElem?_concat_length, i, e0, hi, hit,
        fun j e' hij hj => hno j e' hij (getElem?_append_some hj)⟩
    · exact Or.inl hit
  · rintro (h | ⟨hne, i, e0, hi, hit, hno⟩)
    · refine ⟨H.length, e, List.getElem?_concat_length, h, fun j e' hij hj => ?_⟩
      rcases getElem?_snoc hj with ⟨_, _⟩ | ⟨_, _⟩ <;> omega
    · refine ⟨i, e0, getElem?_append_some hi, hit, fun j e' hij hj => ?_⟩
      rcases getElem?_snoc hj with ⟨_, hj⟩ | ⟨_, rfl⟩
      · exact hno j e' hij hj
      · exact hne

/-- the same for the items handled before position `j`: `c` is in the table when item `j` is handled -/
def SubAt (H : List GE) (c j : Nat) : Prop :=
  ∃ (i : Nat) (e : GE), i < j ∧ H[i]? = some e ∧ e.it = .sub c ∧
    ∀ (j' : Nat) (e' : GE), i < j' → j' < j → H[j']? = some e' → e'.it ≠ .unsub c

theorem SubAt.congr {H H' : List GE} {c j : Nat} (hl : ∀ i < j, H'[i]? = H[i]?) (h : SubAt H c j) :
    SubAt H' c j := by
  obtain ⟨i, e, hij, hi, hit, hno⟩ := h
  exact ⟨i, e, hij, (hl i hij).trans hi, hit, fun j' e' h1 h2 h3 => hno j' e' h1 h2 ((hl j' h2).symm.trans h3)⟩

theorem subAt_snoc {H : List GE} {e : GE} {c j : Nat} (hj : j ≤ H.length) :
    SubAt (H ++ [e]) c j ↔ SubAt H c j :=
  have hl : ∀ i < j, (H ++ [e])[i]? = H[i]? := fun _ hi => List.getElem?_append_left (Nat.lt_of_lt_of_le hi hj)
  ⟨SubAt.congr fun i hi => (hl i hi).symm, SubAt.congr hl⟩

theorem subAt_length {H : List GE} {c : Nat} : SubAt H c H.length ↔ Subscribed H c := by
  constructor
  · rintro ⟨i, e, _, hi, hit, hno⟩
    exact ⟨i, e, hi, hit, fun j e' hij hj => hno j e' hij (List.getElem?_eq_some_iff.mp hj).1 hj⟩
  · rintro ⟨i, e, hi, hit, hno⟩
    exact ⟨i, e, (List.getElem?_eq_some_iff.mp hi).1, hi, hit, fun j e' hij _ hj => hno j e' hij hj⟩

structure SubInv (subs : List Nat) (H : List GE) : Prop where
  sb1 : subs.Nodup
  sb2 : ∀ c ∈ subs, ∃ (i : Nat) (e : GE), H[i]? = some e ∧ e.it = .sub c ∧
          ∀ (j : Nat) (e' : GE), i < j → H[j]? = some e' → e'.it ≠ .unsub c

theorem nodup_filter {l : List Nat} (p : Nat → Bool) (h : l.Nodup) : (l.filter p).Nodup :=
  h.sublist List.filter_sublist

theorem sub_sub {subs : List Nat} {H : List GE} (h : SubInv subs H) {e : GE} {c : Nat} (he : e.it = .sub c) :
    SubInv (c :: subs.filter (fun x => x != c)) (H ++ [e]) := by
  refine ⟨List.nodup_cons.mpr ⟨by simp, nodup_filter _ h.sb1⟩, fun c' hc' => subscribed_snoc.mpr ?_⟩
  rcases List.mem_cons.mp hc' with rfl | hc'
  · exact Or.inl he
  · exact Or.inr ⟨by simp [he], h.sb2 c' (List.mem_filter.mp hc').1⟩

theorem sub_unsub {subs : List Nat} {H : List GE} (h : SubInv subs H) {e : GE} {c : Nat} (he : e.it = .unsub c) :
    SubInv (subs.filter (fun x => x != c)) (H ++ [e]) := by
  refine ⟨nodup_filter _ h.sb1, fun c' hc' => subscribed_snoc.mpr (Or.inr ?_)⟩
  obtain ⟨hc', hne⟩ := List.mem_filter.mp hc'
  exact ⟨by simpa [he] using Ne.symm (by simpa using hne), h.sb2 c' hc'⟩

theorem sub_pub {subs : List Nat} {H : List GE} (h : SubInv subs H) {e : GE} {m : Nat} (he : e.it = .pub m) :
    SubInv subs (H ++ [e]) :=
  ⟨h.sb1, fun c' hc' => subscribed_snoc.mpr (Or.inr ⟨by simp [he], h.sb2 c' hc'⟩)⟩

structure FlInv (seq flight : List (Nat × Nat)) (H : List GE) : Prop where
  f1 : ∀ p ∈ seq ++ flight, pidx H p.2 < H.length
  f2 : (seq ++ flight).Pairwise (fun a b => a.1 = b.1 → pidx H a.2 < pidx H b.2)
  f3 : ∀ p ∈ flight, ∃ (i : Nat) (e : GE), i < pidx H p.2 ∧ H[i]? = some e ∧ e.it = .sub p.1 ∧
         ∀ (j : Nat) (e' : GE), i < j → j < pidx H p.2 → H[j]? = some e' → e'.it ≠ .unsub p.1

theorem fl_append {seq flight : List (Nat × Nat)} {H : List GE} (h : FlInv seq flight H) (e : GE) :
    FlInv seq flight (H ++ [e]) := by
  have hp : ∀ p ∈ seq ++ flight, pidx (H ++ [e]) p.2 = pidx H p.2 := fun p hp => pidx_append _ (h.f1 p hp)
  refine ⟨fun p hpm => ?_, ?_, fun p hpm => ?_⟩
  · rw [hp p hpm, List.length_append]
    exact Nat.lt_add_right _ (h.f1 p hpm)
  · refine h.f2.imp_of_mem fun {a b} ha hb hab heq => ?_
    rw [hp a ha, hp b hb]; exact hab heq
  · have hpm' := List.mem_append_right seq hpm
    show SubAt _ _ _
    rw [hp p hpm', subAt_snoc (Nat.le_of_lt (h.f1 p hpm'))]
    exact h.f3 p hpm

theorem fl_sub {seq flight flight' : List (Nat × Nat)} {H : List GE} (h : FlInv seq flight H)
    (hs : flight'.Sublist flight) : FlInv seq flight' H :=
  have hs' := (List.Sublist.refl seq).append hs
  ⟨fun p hp => h.f1 p (hs'.subset hp), h.f2.sublist hs', fun p hp => h.f3 p (hs.subset hp)⟩

/-- the broker handles `pub m`: one entry per live subscriber -/
theorem fl_pub {seq flight : List (Nat × Nat)} {H : List GE} {subs : List Nat} (h : FlInv seq flight H)
    (hsub : SubInv subs H) {e : GE} {m : Nat} (he : e.it = .pub m) (hu : PubU (H ++ [e])) (p : Nat → Bool) :
    FlInv seq (flight ++ (subs.filter p).map (fun c => (c, m))) (H ++ [e]) := by
  have h' := fl_append h e
  have hm : pidx (H ++ [e]) m = H.length := pidx_eq hu List.getElem?_concat_length he
  refine ⟨fun q hq => ?_, ?_, fun q hq => ?_⟩
  · rw [← List.append_assoc] at hq
    rcases List.mem_append.mp hq with hq | hq
    · exact h'.f1 q hq
    · obtain ⟨c, _, rfl⟩ := List.mem_map.mp hq
      simp [hm]
  · rw [← List.append_assoc, List.pairwise_append]
    refine ⟨h'.f2, ?_, fun a ha b hb _ => ?_⟩
    · -- the new entries go to pairwise different subscribers
      rw [List.pairwise_map]
      exact (List.nodup_iff_pairwise_ne.mp (nodup_filter p hsub.sb1)).imp fun hab heq => absurd heq hab
    · -- and `m` is handled after everything that was sent before
      obtain ⟨c, _, rfl⟩ := List.mem_map.mp hb
      rw [hm, pidx_append _ (h.f1 a ha)]
      exact h.f1 a ha
  · rcases List.mem_append.mp hq with hq | hq
    · exact h'.f3 q hq
    · obtain ⟨c, hc, rfl⟩ := List.mem_map.mp hq
      show SubAt _ _ _
      rw [hm, subAt_snoc (Nat.le_refl _), subAt_length]
      exact hsub.sb2 c (List.mem_filter.mp hc).1

/-- subscriber `c` takes the first entry of its own up -/
theorem fl_deliver {seq f1 f2 : List (Nat × Nat)} {H : List GE} {c m : Nat}
    (h : FlInv seq (f1 ++ (c, m) :: f2) H) (hn : ∀ a ∈ f1, a.1 ≠ c) :
    FlInv (seq ++ [(c, m)]) (f1 ++ f2) H := by
  refine ⟨fun p hp => h.f1 p ?_, pairwise_move h.f2 fun a ha heq => absurd heq.symm (hn a ha),
    fun p hp => h.f3 p (((List.sublist_cons_self _ f2).append_left f1).subset hp)⟩
  simpa only [List.mem_append, List.mem_cons, List.not_mem_nil, or_false, or_assoc, or_left_comm] using hp

end Hannibal
