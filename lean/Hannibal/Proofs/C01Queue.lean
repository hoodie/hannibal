import Hannibal.Monitor.Basic
import Hannibal.Proofs.Handles
/-
  List-level core of C01: the waiting user messages `q` (oldest first) against the monitor's
  `handled` / `before` / `completed` tables.
-/
namespace Hannibal

structure QInv (q : List Nat) (rx : Bool) (handled : List Nat) (before : List (Nat × List Nat))
    (completed seen : List Nat) : Prop where
  nodup : q.Nodup
  disj : ∀ m ∈ q, m ∉ handled
  seenq : ∀ m ∈ q, m ∈ seen
  seenh : ∀ m ∈ handled, m ∈ seen
  seenb : ∀ m, m ∉ seen → lookup m before = none
  /-- everything that had been submitted completely before `m2` was submitted is handled or ahead of it -/
  ord : ∀ m2 ∈ q, ∀ m1 ∈ (lookup m2 before).getD [], m1 ∈ handled ∨ q.idxOf m1 < q.idxOf m2
  live : ∀ m ∈ completed, m ∈ handled ∨ m ∈ q ∨ rx = false

theorem qinv_init : QInv [] true [] [] [] [] := by
  constructor <;> simp [lookup]

theorem qinv_seen {q rx h b c seen} (hi : QInv q rx h b c seen) (m : Nat) : QInv q rx h b c (m :: seen) := by
  obtain ⟨h1, h2, h3, h4, h5, h6, h7⟩ := hi
  refine ⟨h1, h2, fun x hx => List.mem_cons_of_mem _ (h3 x hx), fun x hx => List.mem_cons_of_mem _ (h4 x hx),
    fun x hx => h5 x (fun hm => hx (List.mem_cons_of_mem _ hm)), h6, h7⟩

theorem idxOf_cons_ne' {a x : Nat} {l : List Nat} (h : a ≠ x) : (a :: l).idxOf x = l.idxOf x + 1 := by
  rw [List.idxOf_cons]
  have : (a == x) = false := by simpa using h
  rw [this]; rfl

theorem idxOf_append_single_new {q : List Nat} {m : Nat} (hm : m ∉ q) : (q ++ [m]).idxOf m = q.length := by
  rw [List.idxOf_append]; simp [hm]

theorem idxOf_append_mem {q : List Nat} {x m : Nat} (hx : x ∈ q) : (q ++ [m]).idxOf x = q.idxOf x := by
  rw [List.idxOf_append]; simp [hx]

theorem qinv_push_plain {q rx h b c seen} (hi : QInv q rx h b c seen) {m : Nat} (hm : m ∉ seen) :
    QInv (q ++ [m]) rx h b c (m :: seen) := by
  obtain ⟨h1, h2, h3, h4, h5, h6, h7⟩ := hi
  have hmq : m ∉ q := fun hq => hm (h3 m hq)
  refine ⟨?_, ?_, ?_, ?_, ?_, ?_, ?_⟩
  · rw [List.nodup_append]
    refine ⟨h1, by simp, ?_⟩
    intro a ha b' hb; simp at hb; subst hb; intro hab; subst hab; exact hmq ha
  · intro x hx
    rcases List.mem_append.mp hx with hx | hx
    · exact h2 x hx
    · simp at hx; subst hx; exact fun hh => hm (h4 x hh)
  · intro x hx
    rcases List.mem_append.mp hx with hx | hx
    · exact List.mem_cons_of_mem _ (h3 x hx)
    · simp at hx; subst hx; simp
  · exact fun x hx => List.mem_cons_of_mem _ (h4 x hx)
  · exact fun x hx => h5 x (fun hm' => hx (List.mem_cons_of_mem _ hm'))
  · intro m2 hm2 m1 hm1
    rcases List.mem_append.mp hm2 with hm2 | hm2
    · rcases h6 m2 hm2 m1 hm1 with hh | hlt
      · exact .inl hh
      · right
        have hm1q : m1 ∈ q := by
          have : q.idxOf m1 < q.length := Nat.lt_trans hlt (List.idxOf_lt_length_of_mem hm2)
          exact List.idxOf_lt_length_iff.mp this
        rw [idxOf_append_mem hm1q, idxOf_append_mem hm2]; exact hlt
    · simp at hm2; subst hm2
      rw [h5 m2 hm] at hm1; simp at hm1
  · intro x hx
    rcases h7 x hx with hh | hh | hh
    · exact .inl hh
    · exact .inr (.inl (List.mem_append_left _ hh))
    · exact .inr (.inr hh)

theorem qinv_push_op {q h b c seen} (hi : QInv q true h b c seen) {m : Nat} (hm : m ∉ seen) :
    QInv (q ++ [m]) true h ((m, c.filter (fun x => !h.contains x)) :: b) c (m :: seen) := by
  have hi' := qinv_push_plain hi hm
  obtain ⟨h1, h2, h3, h4, h5, h6, h7⟩ := hi'
  have hmq : m ∉ q := fun hq => hm (hi.seenq m hq)
  refine ⟨h1, h2, h3, h4, ?_, ?_, h7⟩
  · intro x hx
    have hxm : m ≠ x := fun hxm => hx (by simp [hxm])
    rw [lookup_cons_ne hxm]
    exact h5 x hx
  · intro m2 hm2 m1 hm1
    by_cases hmm : m = m2
    · subst hmm
      rw [lookup_cons_eq] at hm1
      simp at hm1
      obtain ⟨hc, hnh⟩ := hm1
      rcases hi.live m1 hc with hh | hh | hh
      · exact absurd hh hnh
      · right
        rw [idxOf_append_mem hh, idxOf_append_single_new hmq]
        exact List.idxOf_lt_length_of_mem hh
      · simp at hh
    · rw [lookup_cons_ne hmm] at hm1
      exact h6 m2 hm2 m1 hm1

theorem qinv_begin_refused {q rx h b c seen} (hi : QInv q rx h b c seen) {m : Nat} (hm : m ∉ seen) (v : List Nat) :
    QInv q rx h ((m, v) :: b) c (m :: seen) := by
  obtain ⟨h1, h2, h3, h4, h5, h6, h7⟩ := qinv_seen hi m
  refine ⟨h1, h2, h3, h4, ?_, ?_, h7⟩
  · intro x hx
    have hxm : m ≠ x := fun hxm => hx (by simp [hxm])
    rw [lookup_cons_ne hxm]
    exact h5 x hx
  · intro m2 hm2 m1 hm1
    have hmm : m ≠ m2 := fun hmm => hm (by subst hmm; exact hi.seenq _ hm2)
    rw [lookup_cons_ne hmm] at hm1
    exact h6 m2 hm2 m1 hm1

/-- a tick at the head of the mailbox gets the fresh message id `m` -/
theorem qinv_cons {q rx h b c seen} (hi : QInv q rx h b c seen) {m : Nat} (hm : m ∉ seen) :
    QInv (m :: q) rx h b c (m :: seen) := by
  obtain ⟨h1, h2, h3, h4, h5, h6, h7⟩ := hi
  have hmq : m ∉ q := fun hq => hm (h3 m hq)
  refine ⟨List.nodup_cons.mpr ⟨hmq, h1⟩, ?_, ?_, fun x hx => List.mem_cons_of_mem _ (h4 x hx),
    fun x hx => h5 x (fun hm' => hx (List.mem_cons_of_mem _ hm')), ?_, ?_⟩
  · intro x hx
    rcases List.mem_cons.mp hx with rfl | hx
    · exact fun hh => hm (h4 _ hh)
    · exact h2 x hx
  · intro x hx
    rcases List.mem_cons.mp hx with rfl | hx
    · simp
    · exact List.mem_cons_of_mem _ (h3 x hx)
  · intro m2 hm2 m1 hm1
    rcases List.mem_cons.mp hm2 with rfl | hm2
    · rw [h5 _ hm] at hm1; simp at hm1
    · have hne : m ≠ m2 := fun he => hmq (he ▸ hm2)
      rcases h6 m2 hm2 m1 hm1 with hh | hlt
      · exact .inl hh
      · right
        rw [idxOf_cons_ne' hne]
        by_cases h1m : m = m1
        · subst h1m; rw [List.idxOf_cons_self]; omega
        · rw [idxOf_cons_ne' h1m]; omega
  · intro x hx
    rcases h7 x hx with hh | hh | hh
    · exact .inl hh
    · exact .inr (.inl (List.mem_cons_of_mem _ hh))
    · exact .inr (.inr hh)

/-- the loop takes the head message `m`: it was not handled before (2) and everything recorded as
    complete before its submission has been handled (3) -/
theorem qinv_head {q rx h b c seen} {m : Nat} (hi : QInv (m :: q) rx h b c seen) :
    m ∉ h ∧ ∀ m1 ∈ (lookup m b).getD [], m1 ∈ h := by
  refine ⟨hi.disj m (by simp), ?_⟩
  intro m1 hm1
  rcases hi.ord m (by simp) m1 hm1 with hh | hlt
  · exact hh
  · rw [List.idxOf_cons_self] at hlt; omega

theorem qinv_pop {q rx h b c seen} {m : Nat} (hi : QInv (m :: q) rx h b c seen) :
    QInv q rx (m :: h) b c seen := by
  obtain ⟨h1, h2, h3, h4, h5, h6, h7⟩ := hi
  obtain ⟨hmq, hnd⟩ := List.nodup_cons.mp h1
  refine ⟨hnd, ?_, fun x hx => h3 x (List.mem_cons_of_mem _ hx), ?_, h5, ?_, ?_⟩
  · intro x hx hh
    rcases List.mem_cons.mp hh with rfl | hh
    · exact hmq hx
    · exact h2 x (List.mem_cons_of_mem _ hx) hh
  · intro x hx
    rcases List.mem_cons.mp hx with rfl | hx
    · exact h3 _ (by simp)
    · exact h4 x hx
  · intro m2 hm2 m1 hm1
    have hne : m ≠ m2 := fun he => hmq (he ▸ hm2)
    rcases h6 m2 (List.mem_cons_of_mem _ hm2) m1 hm1 with hh | hlt
    · exact .inl (List.mem_cons_of_mem _ hh)
    · by_cases h1m : m = m1
      · exact .inl (by simp [h1m])
      · right
        rw [idxOf_cons_ne' hne, idxOf_cons_ne' h1m] at hlt
        omega
  · intro x hx
    rcases h7 x hx with hh | hh | hh
    · exact .inl (List.mem_cons_of_mem _ hh)
    · rcases List.mem_cons.mp hh with rfl | hh
      · exact .inl (by simp)
      · exact .inr (.inl hh)
    · exact .inr (.inr hh)

theorem qinv_wipe {q rx h b c seen} (hi : QInv q rx h b c seen) : QInv [] false h b c seen := by
  obtain ⟨h1, h2, h3, h4, h5, h6, h7⟩ := hi
  exact ⟨by simp, by simp, by simp, h4, h5, by simp, fun x _ => .inr (.inr rfl)⟩

theorem qinv_complete {q rx h b c seen} (hi : QInv q rx h b c seen) {m : Nat}
    (hm : m ∈ h ∨ m ∈ q ∨ rx = false) : QInv q rx h b (m :: c) seen := by
  obtain ⟨h1, h2, h3, h4, h5, h6, h7⟩ := hi
  refine ⟨h1, h2, h3, h4, h5, h6, ?_⟩
  intro x hx
  rcases List.mem_cons.mp hx with rfl | hx
  · exact hm
  · exact h7 x hx

end Hannibal
