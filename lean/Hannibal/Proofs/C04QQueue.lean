import Hannibal.Proofs.Frame
import Hannibal.Proofs.C01Spec
import Hannibal.Proofs.C05Phase
/-
  Model facts behind C04 (drain barrier): what one step does to the entries waiting *ahead of the first stop
  request* in the mailbox, and to the presence of a stop request.  A step is first reduced to one of five
  moves of the queue (`QStep`); everything the coupling invariants need is read off those.
-/
namespace Hannibal
open AState

def notStop (e : Entry) : Bool := !isStopP e.pl

/-- `ahead` is `aheadOf msgNo`, `aheadP04p` is `aheadOf pingNo04p`, both by definition -/
def aheadOf (f : Payload → Option Nat) (q : List Entry) : List Nat :=
  (q.takeWhile notStop).filterMap (fun e => f e.pl)

def ahead (q : List Entry) : List Nat := (q.takeWhile notStop).filterMap (fun e => msgNo e.pl)

def hasStop (q : List Entry) : Bool := q.any (fun e => isStopP e.pl)

def msgL (pl : Payload) : List Nat :=
  match msgNo pl with
  | some m => [m]
  | none => []

@[simp] theorem ahead_nil : ahead [] = [] := rfl
@[simp] theorem hasStop_nil : hasStop [] = false := rfl

theorem hasStop_cons (e : Entry) (q : List Entry) : hasStop (e :: q) = (isStopP e.pl || hasStop q) := by
  simp [hasStop]

theorem hasStop_snoc (q : List Entry) (e : Entry) : hasStop (q ++ [e]) = (hasStop q || isStopP e.pl) := by
  simp [hasStop, List.any_append]

section
variable {f : Payload → Option Nat} {x : Nat} {e : Entry} {q : List Entry}

theorem mem_aheadOf_cons :
    x ∈ aheadOf f (e :: q) ↔ isStopP e.pl = false ∧ (f e.pl = some x ∨ x ∈ aheadOf f q) := by
  unfold aheadOf
  cases h : isStopP e.pl <;> simp [notStop, h, List.filterMap_cons]
  cases f e.pl <;> simp [eq_comm]

theorem mem_aheadOf_snoc :
    x ∈ aheadOf f (q ++ [e]) ↔
      x ∈ aheadOf f q ∨ (hasStop q = false ∧ isStopP e.pl = false ∧ f e.pl = some x) := by
  induction q with
  | nil => simp [mem_aheadOf_cons, show aheadOf f [] = [] from rfl]
  | cons y ys ih =>
    rw [List.cons_append, mem_aheadOf_cons, mem_aheadOf_cons, hasStop_cons, ih]
    cases isStopP y.pl <;> simp [or_assoc]

theorem aheadOf_sub (hx : x ∈ aheadOf f q) : x ∈ q.filterMap (fun e => f e.pl) := by
  induction q with
  | nil => exact hx
  | cons y ys ih =>
    rw [List.filterMap_cons]
    rcases (mem_aheadOf_cons.mp hx).2 with h | h
    · simp [h]
    · cases f y.pl <;> simp [ih h]

theorem ahead_sub_qmsgs (c : Chan) : ∀ m ∈ ahead c.queue, m ∈ qmsgs c := fun _ => aheadOf_sub

theorem mem_aheadOf_of_no_stop (h : hasStop q = false) (hx : x ∈ q.filterMap (fun e => f e.pl)) :
    x ∈ aheadOf f q := by
  induction q with
  | nil => exact hx
  | cons y ys ih =>
    rw [hasStop_cons, Bool.or_eq_false_iff] at h
    rw [mem_aheadOf_cons]
    rw [List.filterMap_cons] at hx
    refine ⟨h.1, ?_⟩
    cases hy : f y.pl <;> simp only [hy] at hx
    · exact .inr (ih h.2 hx)
    · rcases List.mem_cons.mp hx with rfl | hx
      · exact .inl rfl
      · exact .inr (ih h.2 hx)

end

/-- `ChanOf` read off the queue, together with whether the loop can still take something out of the mailbox after
    the step (`alive'`): once it takes a stop request it takes nothing more, and the end of its task drops
    everything. -/
inductive QStep (l : Label) (q q' : List Entry) (alive' : Bool) : Prop
  | same (h : q' = q)
  | enq (pl tok t) (hl : Submits l pl tok) (h : q' = q ++ [({ pl, tok := t } : Entry)])
  | deq (pl tok) (hl : Takes l pl) (h : q = { pl, tok } :: q') (hst : isStopP pl = true → alive' = false)
  | drop (h : q' = []) (ha : alive' = false)
  | bind (pl m tok rest) (hl : Binds l pl m) (h : q = { pl, tok } :: rest)
      (h' : q' = { pl := .msg m none, tok } :: rest)

theorem not_alive_of_done {s : AState} (h : s.isDone = true) : loopAlive s.phase = false := by
  unfold isDone at h
  cases hp : s.phase <;> simp_all [loopAlive]

theorem step_qstep {w s l s'} (hs : step w s l = some s') :
    QStep l s.chan.queue s'.chan.queue (loopAlive s'.phase) := by
  cases step_chanOf hs with
  | same _ h => exact .same (by rw [h])
  | enq pl tok t hl _ _ h => exact .enq pl tok t hl (by rw [h, Chan.enq_queue])
  | deq pl tok rest hl hq _ h =>
    refine .deq pl tok hl (by rw [h, Chan.deq, hq]; rfl) fun hst => ?_
    -- the loop takes a stop request only by leaving
    cases hl <;> first | cases hst | skip
    cases step_loop hs rfl with
    | stop => rfl
    | ping e _ o _ hq' _ he => rw [hq] at hq'; cases hq'; cases he
    | restartIgnored e _ _ hq' _ he => rw [hq] at hq'; cases hq'; cases he
    | restartTaken e _ _ hq' _ he => rw [hq] at hq'; cases hq'; cases he
  | bind pl m tok rest hl hq h => exact .bind pl m tok rest hl hq (by rw [h])
  | drop ht h => exact .drop (by rw [h]; rfl) (not_alive_of_done ((step_isDone w hs).1 ht))

variable {f : Payload → Option Nat} {x : Nat} {q q' : List Entry}

theorem queue_mem {l : Label} (h : QStep l q q' true) (hx : x ∈ aheadOf f q') :
    x ∈ aheadOf f q ∨ (∃ pl tok, Submits l pl tok ∧ f pl = some x ∧ hasStop q = false) ∨
      ∃ pl m, Binds l pl m ∧ f (.msg m none) = some x := by
  cases h with
  | same h => exact .inl (h ▸ hx)
  | enq pl tok t hl h =>
    rcases mem_aheadOf_snoc.mp (h ▸ hx) with hx | ⟨hst, -, hf⟩
    · exact .inl hx
    · exact .inr (.inl ⟨pl, tok, hl, hf, hst⟩)
  | deq pl tok _ h hst =>
    cases he : isStopP pl
    · exact .inl (h ▸ mem_aheadOf_cons.mpr ⟨he, .inr hx⟩)
    · cases hst he
  | drop _ ha => cases ha
  | bind pl m tok rest hl h h' =>
    obtain ⟨-, hx⟩ := mem_aheadOf_cons.mp (h' ▸ hx)
    rcases hx with hx | hx
    · exact .inr (.inr ⟨pl, m, hl, hx⟩)
    · exact .inl (h ▸ mem_aheadOf_cons.mpr ⟨by cases hl <;> rfl, .inr hx⟩)

theorem queue_mem_all {l : Label} {a : Bool} (h : QStep l q q' a) (hx : x ∈ q'.filterMap (fun e => f e.pl)) :
    x ∈ q.filterMap (fun e => f e.pl) ∨ (∃ pl tok, Submits l pl tok ∧ f pl = some x) ∨
      ∃ pl m, Binds l pl m ∧ f (.msg m none) = some x := by
  cases h with
  | same h => exact .inl (h ▸ hx)
  | enq pl tok t hl h =>
    rw [h, List.filterMap_append, List.mem_append] at hx
    rcases hx with hx | hx
    · exact .inl hx
    · exact .inr (.inl ⟨pl, tok, hl, by simpa using hx⟩)
  | deq pl tok _ h _ => exact .inl (h ▸ List.mem_filterMap.mpr (by
      obtain ⟨y, hy, hf⟩ := List.mem_filterMap.mp hx
      exact ⟨y, List.mem_cons_of_mem _ hy, hf⟩))
  | drop h _ => rw [h] at hx; cases hx
  | bind pl m tok rest hl h h' =>
    obtain ⟨y, hy, hf⟩ := List.mem_filterMap.mp (h' ▸ hx)
    rcases List.mem_cons.mp hy with rfl | hy
    · exact .inr (.inr ⟨pl, m, hl, hf⟩)
    · exact .inl (h ▸ List.mem_filterMap.mpr ⟨y, List.mem_cons_of_mem _ hy, hf⟩)

theorem queue_keep {l : Label} {m : Nat} (h : QStep l q q' true) (hm : m ∈ ahead q) :
    m ∈ ahead q' ∨ l = .cbBegin (.handle m) := by
  cases h with
  | same h => exact .inl (h ▸ hm)
  | enq pl tok t _ h => exact .inl (h ▸ mem_aheadOf_snoc.mpr (.inl hm))
  | deq pl tok hl h _ =>
    rcases (mem_aheadOf_cons.mp (h ▸ hm)).2 with he | hm
    · cases hl <;> cases he; exact .inr rfl
    · exact .inl hm
  | drop _ ha => cases ha
  | bind pl m' tok rest hl h h' =>
    rcases (mem_aheadOf_cons.mp (h ▸ hm)).2 with he | hm
    · cases hl <;> cases he
    · exact .inl (h' ▸ mem_aheadOf_cons.mpr ⟨rfl, .inr hm⟩)

theorem queue_stop_mono {l : Label} (h : QStep l q q' true) (hst : hasStop q = true) : hasStop q' = true := by
  cases h with
  | same h => exact h ▸ hst
  | enq pl tok t _ h => rw [h, hasStop_snoc, hst]; rfl
  | deq pl tok _ h hs =>
    rw [h, hasStop_cons] at hst
    cases he : isStopP pl
    · simpa [he] using hst
    · cases hs he
  | drop _ ha => cases ha
  | bind pl m tok rest hl h h' =>
    rw [h, hasStop_cons] at hst
    rw [h', hasStop_cons]
    cases hl <;> exact hst

theorem queue_stop_new {l : Label} {a : Bool} (h : QStep l q q' a) (hst : hasStop q' = true) :
    hasStop q = true ∨ ∃ tok, Submits l .stop tok := by
  cases h with
  | same h => exact .inl (h ▸ hst)
  | enq pl tok t hl h =>
    rw [h, hasStop_snoc, Bool.or_eq_true] at hst
    rcases hst with hst | hst
    · exact .inl hst
    · cases pl <;> first | exact .inr ⟨tok, hl⟩ | cases hst
  | deq pl tok _ h _ => rw [h, hasStop_cons, hst, Bool.or_true]; exact .inl rfl
  | drop h _ => rw [h] at hst; cases hst
  | bind pl m tok rest hl h h' =>
    rw [h', hasStop_cons] at hst
    rw [h, hasStop_cons]
    cases hl <;> exact .inl hst

end Hannibal
