import Hannibal.Proofs.Ops
import Hannibal.Monitor.C12
import Batteries.Data.List.Perm
/-
  C12: the coupling invariant between the actor model and the C12 monitor, and its preservation by each kind of
  move of the operation table and the mailbox.
-/
namespace Hannibal
open AState

/-- The waiting path is what `send` uses (read from the source by the translator). -/
def WellWired12 (w : Wiring) : Prop :=
  w.path .addrSend = .waiting ∧ w.path .senderSend = .waiting

instance (w : Wiring) : Decidable (WellWired12 w) := by unfold WellWired12; infer_instance

structure C12Inv (n : Nat) (s : AState) (σ : C12St) : Prop where
  wf : s.chan.WF
  cap : s.chan.cap = some n
  nodupOps : (s.ops.map (·.o)).Nodup
  sends : ∀ p ∈ σ.sends, ∃ r ∈ s.ops, r.o = p.1 ∧ isSendKind r.kind = some p.2
  outNodup : σ.out.Nodup
  outIn : σ.dead = false → ∀ m ∈ σ.out, ∃ e ∈ s.chan.queue.take n, e.pl = .msg m none
  pend : σ.dead = false → ∀ r ∈ s.ops, r.st = .pending → ∀ m, isSendKind r.kind = some m →
    (m ∈ σ.handled ∨ ∃ e ∈ s.chan.queue, e.tok = .op r.o ∧ e.pl = .msg m none)

theorem length_le_of_nodup_cover {α β : Type} [DecidableEq α] (l : List α) (l' : List β) (f : β → Option α)
    (hn : l.Nodup) (h : ∀ a ∈ l, ∃ b ∈ l', f b = some a) : l.length ≤ l'.length := by
  have hsub : l ⊆ l'.filterMap f := by
    intro a ha
    obtain ⟨b, hb, hfb⟩ := h a ha
    exact List.mem_filterMap.mpr ⟨b, hb, hfb⟩
  have := (List.subperm_of_subset hn hsub).length_le
  exact Nat.le_trans this (List.length_filterMap_le f l')

def msgOfEntry (e : Entry) : Option Nat :=
  match e.pl with
  | .msg m none => some m
  | _ => none

theorem out_length_le {n s σ} (hi : C12Inv n s σ) (hd : σ.dead = false) : σ.out.length ≤ n := by
  have h1 := length_le_of_nodup_cover σ.out (s.chan.queue.take n) msgOfEntry hi.outNodup
    (fun m hm => by
      obtain ⟨e, he, hpl⟩ := hi.outIn hd m hm
      exact ⟨e, he, by simp [msgOfEntry, hpl]⟩)
  exact Nat.le_trans h1 (by simp [List.length_take]; omega)

theorem mem_take_enq {c : Chan} {e x : Entry} {n : Nat} (hx : x ∈ c.queue.take n) :
    x ∈ (c.enq e).queue.take n := by
  rw [Chan.enq_queue, List.take_append]
  exact List.mem_append_left _ hx

theorem mem_queue_enq {c : Chan} {e x : Entry} (hx : x ∈ c.queue) : x ∈ (c.enq e).queue := by
  rw [Chan.enq_queue]; exact List.mem_append_left _ hx

theorem nodup_of_opsMap {s s' : AState} (h : OpsMap s s') (hn : (s.ops.map (·.o)).Nodup) :
    (s'.ops.map (·.o)).Nodup := by
  obtain ⟨f, hf, pf⟩ := h
  rw [hf, List.map_map]
  have : ((fun x => x.o) ∘ f) = (fun x : OpRec => x.o) := by funext r; simp [pf.o]
  rw [this]; exact hn

/-- The coupling survives a step that maps the operation table pointwise, if every user message the
    invariant speaks of stays where it is needed: among the first `n` entries if it has to be there, and
    otherwise in the queue unless it now counts as handled. -/
theorem inv_of_opsMap {n s s' σ σ'} (hi : C12Inv n s σ) (ho : OpsMap s s') (hwf : s'.chan.WF)
    (hcap : s'.chan.cap = s.chan.cap) (hsends : σ'.sends = σ.sends) (hnd : σ'.out.Nodup)
    (hdead : σ'.dead = false → σ.dead = false)
    (hout : σ'.dead = false → ∀ m ∈ σ'.out, m ∈ σ.out ∧
      ∀ e ∈ s.chan.queue.take n, e.pl = .msg m none → e ∈ s'.chan.queue.take n)
    (hq : σ'.dead = false → ∀ m, (m ∈ σ.handled → m ∈ σ'.handled) ∧
      ∀ e ∈ s.chan.queue, e.pl = .msg m none → m ∈ σ'.handled ∨ e ∈ s'.chan.queue) :
    C12Inv n s' σ' := by
  have hnodup := nodup_of_opsMap ho hi.nodupOps
  obtain ⟨f, hf, pf⟩ := ho
  refine ⟨hwf, hcap.trans hi.cap, hnodup, ?_, hnd, ?_, ?_⟩
  · intro p hp
    rw [hsends] at hp
    obtain ⟨r, hr, h1, h2⟩ := hi.sends p hp
    exact ⟨f r, hf ▸ List.mem_map_of_mem hr, (pf.o r).trans h1, (pf.kind r).symm ▸ h2⟩
  · intro hd m hm
    obtain ⟨hm', hk⟩ := hout hd m hm
    obtain ⟨e, he, hpl⟩ := hi.outIn (hdead hd) m hm'
    exact ⟨e, hk e he hpl, hpl⟩
  · intro hd r' hr' hst m hk
    rw [hf] at hr'
    obtain ⟨r, hr, rfl⟩ := List.mem_map.mp hr'
    rw [pf.kind] at hk
    rw [pf.o]
    rcases hi.pend (hdead hd) r hr (pf.st r hst) m hk with h | ⟨e, he, h1, h2⟩
    · exact .inl ((hq hd m).1 h)
    · exact ((hq hd m).2 e he h2).imp id fun he' => ⟨e, he', h1, h2⟩

theorem inv_plain {n s s' σ l} (hi : C12Inv n s σ) (hc : ChanOf l s.chan s'.chan) (hm : l.movesChan = false)
    (ho : OpsMap s s') : C12Inv n s' σ := by
  rcases hc.plain hm with hc | ⟨pl, tok, t, -, -, -, hc⟩
  · exact inv_of_opsMap hi ho (hc ▸ hi.wf) (by rw [hc]) rfl hi.outNodup id
      (fun _ m hm => ⟨hm, fun x hx _ => hc ▸ hx⟩) (fun _ m => ⟨id, fun x hx _ => .inr (hc ▸ hx)⟩)
  · exact inv_of_opsMap hi ho (hc ▸ Chan.wf_enq _ _ hi.wf) (by rw [hc, Chan.enq_cap]) rfl hi.outNodup id
      (fun _ m hm => ⟨hm, fun x hx _ => hc ▸ mem_take_enq hx⟩)
      (fun _ m => ⟨id, fun x hx _ => .inr (hc ▸ mem_queue_enq hx)⟩)

/-- `out'` is the monitor's new list of returned, not yet handled messages -/
theorem inv_remove {n s s' σ} (hi : C12Inv n s σ) (o : Nat) (hc : s'.chan = s.chan)
    (hops : s'.ops = s.ops.filter (fun r => r.o != o)) (out' : List Nat) (hnd : out'.Nodup)
    (hin : σ.dead = false → ∀ m ∈ out', ∃ e ∈ s.chan.queue.take n, e.pl = .msg m none) :
    C12Inv n s' { σ with sends := σ.sends.filter (fun p => p.1 != o), out := out' } := by
  refine ⟨hc ▸ hi.wf, hc ▸ hi.cap, ?_, ?_, hnd, fun hd m hm => hc ▸ hin hd m hm, ?_⟩
  · rw [hops]; exact (List.Sublist.map _ List.filter_sublist).nodup hi.nodupOps
  · intro p hp
    obtain ⟨hp, hpo⟩ := List.mem_filter.mp hp
    obtain ⟨r, hr, h1, h2⟩ := hi.sends p hp
    exact ⟨r, hops ▸ List.mem_filter.mpr ⟨hr, h1 ▸ hpo⟩, h1, h2⟩
  · intro hd r hr hst m hk
    rw [hops] at hr
    exact hc ▸ hi.pend hd r (List.mem_filter.mp hr).1 hst m hk

theorem inv_dead {n s s' σ} (hi : C12Inv n s σ) (hwf : s'.chan.WF) (hcap : s'.chan.cap = s.chan.cap)
    (ho : OpsMap s s') : C12Inv n s' { σ with dead := true } :=
  inv_of_opsMap hi ho hwf hcap rfl hi.outNodup nofun nofun nofun

theorem inv_deq {n s s' σ} (hi : C12Inv n s σ) (e : Entry) (rest : List Entry)
    (hq : s.chan.queue = e :: rest) (hc : s'.chan = s.chan.deq) (ho : OpsMap s s')
    (σ' : C12St) (hsends : σ'.sends = σ.sends) (hdead : σ'.dead = σ.dead)
    (hout : σ'.out.Nodup)
    (houtsub : ∀ m ∈ σ'.out, m ∈ σ.out ∧ e.pl ≠ .msg m none)
    (hhandled : ∀ m, m ∈ σ.handled → m ∈ σ'.handled)
    (hhead : ∀ m, e.pl = .msg m none → m ∈ σ'.handled) :
    C12Inv n s' σ' := by
  have hq' : s'.chan.queue = rest := by rw [hc]; simp [Chan.deq, hq]
  refine inv_of_opsMap hi ho (hc ▸ Chan.wf_deq _ hi.wf) (by rw [hc]; rfl) hsends hout (hdead ▸ id) ?_ ?_
  · intro _ m hm
    obtain ⟨hm1, hne⟩ := houtsub m hm
    refine ⟨hm1, fun x hx hpl => ?_⟩
    rw [hq] at hx; rw [hq']
    cases n with
    | zero => cases hx
    | succ k =>
      rcases List.mem_cons.mp hx with rfl | hx
      · exact absurd hpl hne
      · exact List.take_subset_take_left rest (Nat.le_succ k) hx
  · intro _ m
    refine ⟨hhandled m, fun x hx hpl => ?_⟩
    rw [hq] at hx
    rcases List.mem_cons.mp hx with rfl | hx
    · exact .inl (hhead m hpl)
    · exact .inr (hq' ▸ hx)

theorem inv_rename_pl {n s s' σ} (hi : C12Inv n s σ) (pl : Payload) (hnm : ∀ m', pl ≠ .msg m' none)
    (m : Nat) (tok : Tok) (rest : List Entry)
    (hq : s.chan.queue = { pl := pl, tok } :: rest)
    (hc : s'.chan = { s.chan with queue := { pl := .msg m none, tok } :: rest }) (ho : OpsMap s s') :
    C12Inv n s' σ := by
  have hq' : s'.chan.queue = { pl := .msg m none, tok } :: rest := by rw [hc]
  have hne : ∀ x : Entry, ∀ m', x.pl = .msg m' none → x ≠ { pl := pl, tok } := fun x m' hpl h => hnm m' (by rw [h] at hpl; exact hpl)
  refine inv_of_opsMap hi ho (hc ▸ Chan.wf_rename _ _ _ _ _ hq hi.wf) (by rw [hc]) rfl hi.outNodup id ?_ ?_
  · intro _ m' hm
    refine ⟨hm, fun x hx hpl => ?_⟩
    rw [hq] at hx; rw [hq']
    cases n with
    | zero => cases hx
    | succ k =>
      rw [List.take_succ_cons] at hx ⊢
      rcases List.mem_cons.mp hx with rfl | hx
      · exact absurd rfl (hne _ m' hpl)
      · exact List.mem_cons_of_mem _ hx
  · intro _ m'
    refine ⟨id, fun x hx hpl => .inr ?_⟩
    rw [hq] at hx; rw [hq']
    rcases List.mem_cons.mp hx with rfl | hx
    · exact absurd rfl (hne _ m' hpl)
    · exact List.mem_cons_of_mem _ hx

end Hannibal
